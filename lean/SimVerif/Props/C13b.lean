import SimVerif.Props.C13
import SimVerif.Lemmas.TrackerAllT
/-!
# C13 — galleries and histories are bounded in every reachable state of a VisualSORT tracker
Model: `SimVerif.Tracker`.
-/
namespace SimVerif.C13
open SimVerif.Tracker List

inductive VOp where
  | predict (scene : Nat) (dets : List Det) (table : List VEntry) (picks : List Pick)
  | predictBatch (scenes : List (Nat × List Det × List VEntry × List Pick))
  | skip (scene n : Nat)
  | wasted
  | clearWasted
  | setAw (p : Nat)

/-- one call (a call whose choice is not valid leaves the state as it is) -/
def vstep (cfg : Cfg) (st : St) : VOp → St
  | .predict scene dets table picks =>
    match predictV cfg st scene dets table picks with
    | some (st', _) => st'
    | none => st
  | .predictBatch scenes =>
    match predictBatchV cfg st scenes with
    | some (st', _) => st'
    | none => st
  | .skip scene n => skip cfg st scene n
  | .wasted => (wastedOp cfg st).1
  | .clearWasted => clearWasted st
  | .setAw p => setAutoWaste st p

/-- what C13 says about one stored track -/
def TrkOk (cfg : Cfg) (t : Trk) : Prop :=
  t.gallery.length ≤ cfg.maxObs ∧ t.vcount = featCount t.gallery ∧
  1 ≤ t.gallery.length ∧ (t.gallery.filter (·.box)).length ≤ 1 ∧
  t.obsH.length ≤ cfg.histLen ∧ t.featH.length ≤ cfg.histLen ∧ 1 ≤ t.obsH.length

def GalleryInv (cfg : Cfg) (st : St) : Prop := ∀ t ∈ st.live ++ st.wasted, TrkOk cfg t

theorem galleryInv_iff_allT (cfg : Cfg) (st : St) : GalleryInv cfg st ↔ AllT (TrkOk cfg) st := Iff.rfl

theorem updTrk_ok (cfg : Cfg) (hv : cfg.visual = true) (hm : 1 ≤ cfg.maxObs) (hh : 1 ≤ cfg.histLen)
    (t : Trk) (ht : TrkOk cfg t) (e : Nat) (d : Det) (vis : Bool) : TrkOk cfg (C03.updTrk cfg e d vis t) := by
  obtain ⟨h1, _, _, _, h5, h6, _⟩ := ht
  refine ⟨?_, updTrk_vcount hv e d vis t, ?_, ?_, pushBounded_length_le _ _ _ hh h5, ?_, pushBounded_length_pos _ _ _⟩
  · rw [updTrk_gallery hv]; exact C13_bound cfg.maxObs hm _ _ h1
  · rw [updTrk_gallery hv, galleryUpdate_length]; exact Nat.le_add_left _ _
  · rw [updTrk_gallery hv]; exact galleryUpdate_boxes _ _ _
  · rw [updTrk_featH hv]; exact pushBounded_length_le _ _ _ hh h6

theorem newTrk_ok (cfg : Cfg) (hv : cfg.visual = true) (hm : 1 ≤ cfg.maxObs) (hh : 1 ≤ cfg.histLen)
    (scene e : Nat) (d : Det) (id : Nat) : TrkOk cfg (C03.newTrk cfg scene e d id) := by
  refine ⟨?_, rfl, ?_, ?_, by simpa [C03.newTrk] using hh, ?_, by simp [C03.newTrk]⟩
  · rw [newTrk_gallery hv]; simpa using hm
  · rw [newTrk_gallery hv]; simp
  · rw [newTrk_gallery hv]; simp
  · rw [newTrk_featH hv]; simpa using hh

theorem vstep_inv (cfg : Cfg) (hv : cfg.visual = true) (hm : 1 ≤ cfg.maxObs) (hh : 1 ≤ cfg.histLen)
    (st : St) (op : VOp) (hi : GalleryInv cfg st) : GalleryInv cfg (vstep cfg st op) := by
  have hupd := fun t ht e d vis => updTrk_ok cfg hv hm hh t ht e d vis
  have hnew := newTrk_ok cfg hv hm hh
  cases op with
  | predict scene dets table picks =>
    unfold vstep; simp only
    cases h : predictV cfg st scene dets table picks with
    | none => exact hi
    | some x =>
      obtain ⟨st', recs⟩ := x
      exact AllT.predictV hupd hnew h hi
  | predictBatch scenes =>
    unfold vstep; simp only
    cases h : predictBatchV cfg st scenes with
    | none => exact hi
    | some x =>
      obtain ⟨st', out⟩ := x
      exact AllT.predictBatchV hupd hnew h hi
  | skip scene n => exact AllT.skip cfg hi scene n
  | wasted => exact AllT.wastedOp cfg hi
  | clearWasted => exact AllT.clearWasted hi
  | setAw p => exact AllT.setAutoWaste hi p

/-- **In every reachable state** of a VisualSORT tracker (`visual_max_observations ≥ 1`,
`kept_history_length ≥ 1`, as the options builder asserts) every track holds at most
`visual_max_observations` observations, at least one, at most one of them with a box, reports as
collected count the number of stored features, and keeps histories of at most `kept_history_length`
entries. -/
theorem C13_reachable (cfg : Cfg) (hv : cfg.visual = true) (hm : 1 ≤ cfg.maxObs) (hh : 1 ≤ cfg.histLen)
    (ops : List VOp) : GalleryInv cfg (ops.foldl (vstep cfg) {}) := by
  have key : ∀ (ops : List VOp) (st : St), GalleryInv cfg st → GalleryInv cfg (ops.foldl (vstep cfg) st) := by
    intro ops
    induction ops with
    | nil => intro st hi; exact hi
    | cons op ops ih =>
      intro st hi
      rw [foldl_cons]
      exact ih _ (vstep_inv cfg hv hm hh st op hi)
  exact key ops {} AllT.empty

end SimVerif.C13
