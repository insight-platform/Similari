import SimVerif.Lemmas.Voting
import SimVerif.Lemmas.Assign
/-!
# C17 — voting engines: vote counting, weights, top-N order, one winner per track
-/
namespace SimVerif.C17
open SimVerif.Voting List

variable (n : Nat) (maxD : Rat) (mv : Nat)

/-- what the candidate list contains: exactly one element per `(query, track)` pair that has at
least `min_votes` distances `≤ max_distance`; its weight is `Σ (largest distance seen − d)` over
those distances. -/
theorem C17_cands_spec (s : List Dist) (e : Elt) :
    e ∈ cands maxD mv s ↔
      (e.q, e.w) ∈ (kept maxD s).map (·.1) ∧ mv ≤ votes maxD s (e.q, e.w) ∧
      e.weight = weightOf maxD s (e.q, e.w) := mem_cands maxD mv s e

theorem C17_cands_one_per_pair (s : List Dist) :
    ((cands maxD mv s).map (fun e => (e.q, e.w))).Nodup := cands_keys_nodup maxD mv s

/-- sorting by decreasing weight and cutting at `n`, for any arrangement `l'` of the list `l` -/
theorem take_sort_spec {l l' : List Elt} (h : l' ~ l) :
    (∀ e ∈ (l'.mergeSort wGE).take n, e ∈ l) ∧
    ((l'.mergeSort wGE).take n).Pairwise (fun a b => b.weight ≤ a.weight) ∧
    ((l'.mergeSort wGE).take n).length = min n l.length ∧
    (∀ c ∈ l, c ∉ (l'.mergeSort wGE).take n → ∀ e ∈ (l'.mergeSort wGE).take n, c.weight ≤ e.weight) := by
  have hperm := (mergeSort_perm l' wGE).trans h
  have hsorted := SortKey.pairwise_mergeSort_desc (le := wGE) Elt.weight (fun _ _ => rfl) l'
  exact ⟨fun e he => hperm.subset (mem_of_mem_take he), hsorted.sublist (take_sublist _ _),
    by rw [length_take, hperm.length_eq],
    fun c hc hnot e he => ListFacts.rel_take_of_not_mem_take hsorted (hperm.symm.subset hc) hnot he⟩

/-- TopN: the result for a query holds at most `N` candidates of that query, ordered by
decreasing weight, namely `min N (#candidates)` of them, and no excluded candidate of the query
outweighs an included one. -/
theorem C17_topn_spec (s : List Dist) (q : Nat) :
    (∀ e ∈ topn n maxD mv s q, e ∈ cands maxD mv s ∧ e.q = q) ∧
    (topn n maxD mv s q).Pairwise (fun a b => b.weight ≤ a.weight) ∧
    (topn n maxD mv s q).length = min n ((cands maxD mv s).filter (fun e => e.q == q)).length ∧
    (∀ c ∈ cands maxD mv s, c.q = q → c ∉ topn n maxD mv s q →
        ∀ e ∈ topn n maxD mv s q, c.weight ≤ e.weight) := by
  obtain ⟨h1, h2, h3, h4⟩ := take_sort_spec n (Perm.refl ((cands maxD mv s).filter (fun e => e.q == q)))
  exact ⟨fun e he => by simpa using h1 e he, h2, h3, fun c hc hcq => h4 c (by simp [hc, hcq])⟩

/-- TopN does not depend on the order of the stream (no weight ties inside the query). -/
theorem C17_topn_perm (s₁ s₂ : List Dist) (h : s₁ ~ s₂) (q : Nat)
    (hd : ∀ a ∈ cands maxD mv s₁, ∀ b ∈ cands maxD mv s₁, a.q = q → b.q = q → a.weight = b.weight → a = b) :
    topn n maxD mv s₁ q = topn n maxD mv s₂ q := by
  unfold topn
  rw [SortKey.mergeSort_desc_eq_of_perm Elt.weight (le := wGE) (fun _ _ => rfl) ((cands_perm maxD mv h).filter _)]
  intro a ha b hb hw
  simp only [mem_filter, beq_iff_eq] at ha hb
  exact hd a ha.1 b hb.1 ha.2 hb.2 hw

/-- … and the set of queries that get an entry is order independent as well. -/
theorem C17_topn_keys_perm (s₁ s₂ : List Dist) (h : s₁ ~ s₂) :
    ∀ q, q ∈ topnKeys maxD mv s₁ ↔ q ∈ topnKeys maxD mv s₂ :=
  fun _ => (firsts_perm ((cands_perm maxD mv h).map _)).mem_iff

/-- BestFit, exact rule: walking the candidates by decreasing weight, a candidate gets the track
it claims iff no earlier (= at least as heavy) candidate claims the same track; otherwise it falls
back to itself. -/
theorem C17_bestfit_rule (s : List Dist) (pre post : List Elt) (c : Elt)
    (h : (cands maxD mv s).mergeSort wGE = pre ++ c :: post) :
    ∃ tail, bestfitAll maxD mv s =
      award pre [] ++ (if pre.any (fun p => p.w == c.w) then ({ c with w := c.q }, false) else (c, true)) :: tail := by
  have hc : (pre.map (·.w)).contains c.w = pre.any (fun p => p.w == c.w) := by
    rw [contains_eq_any_beq, any_map]; exact congrArg _ (funext fun p => Bool.beq_comm)
  unfold bestfitAll
  rw [h, award_append]
  simp only [award, append_nil, hc]
  split <;> exact ⟨_, rfl⟩

/-- BestFit: every track is awarded to at most one query; each candidate keeps its query and weight. -/
theorem C17_bestfit_one_winner (s : List Dist) :
    (((bestfitAll maxD mv s).filter (·.2)).map (·.1.w)).Nodup ∧
    (bestfitAll maxD mv s).length = (cands maxD mv s).length := by
  refine ⟨(award_real_nodup _ []).1, ?_⟩
  unfold bestfitAll
  rw [award_length, (mergeSort_perm _ _).length_eq]

/-- BestFit does not depend on the order of the stream (no weight ties). -/
theorem C17_bestfit_perm (s₁ s₂ : List Dist) (h : s₁ ~ s₂)
    (hd : ∀ a ∈ cands maxD mv s₁, ∀ b ∈ cands maxD mv s₁, a.weight = b.weight → a = b) :
    bestfitAll maxD mv s₁ = bestfitAll maxD mv s₂ := by
  unfold bestfitAll
  rw [SortKey.mergeSort_desc_eq_of_perm Elt.weight (le := wGE) (fun _ _ => rfl) (cands_perm maxD mv h) hd]

/-- Hungarian voting (matrix level, every optimal `σ`, `thr > 0`): each query row is decoded to one track column it is
gated for, or to itself (`C02_decode`); no track twice (the field `inj` of the hypothesis). -/
theorem C17_hungarian {c t : ℕ} {thr : ℤ} {W : Fin c → Fin t → ℤ} {σ : Fin c → Assign.Col c t}
    (hthr : 0 < thr) (h : Assign.IsOpt thr W σ) :
    (∀ i, σ i = .inl i ∨ ∃ k, σ i = .inr k ∧ thr ≤ W i k) ∧
    (∀ a b k, σ a = .inr k → σ b = .inr k → a = b) := by
  refine ⟨fun i => ?_, fun a b k ha hb => h.inj (ha.trans hb.symm)⟩
  have := Assign.decode_ok hthr h i
  cases hσ : σ i with
  | inl j => rw [hσ] at this; exact Or.inl (congrArg _ this)
  | inr k => rw [hσ] at this; exact Or.inr ⟨k, rfl, this⟩

private def ex : List Dist :=
  [⟨1, 100, some (1/10)⟩, ⟨2, 100, some (1/2)⟩, ⟨2, 100, some (1/2)⟩, ⟨3, 200, some 5⟩]
example : (kept 1 ex).map (·.1) = [(1,100), (2,100), (2,100)] := by decide +kernel
example : maxSeen ex = 5 := by decide +kernel
example : cands 1 1 ex = [⟨1, 100, 49/10⟩, ⟨2, 100, 9⟩] := by decide +kernel
/-- query 2 (two votes, weight 9) beats query 1 (weight 4.9) for track 100; query 1 falls back -/
example : award [⟨2, 100, 9⟩, ⟨1, 100, 49/10⟩] [] = [(⟨2, 100, 9⟩, true), (⟨1, 1, 49/10⟩, false)] := by
  decide +kernel

end SimVerif.C17
