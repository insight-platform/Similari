import SimVerif.Model.Kalman
import Mathlib.Data.Matrix.Block
import Mathlib.Data.Matrix.ColumnRowPartitioned
import Mathlib.Data.Matrix.Diagonal
import Mathlib.Data.Matrix.Mul
import Mathlib.Tactic.Ring
import Mathlib.Tactic.NormNum
/-!
# C07, part B — the matrix-level textbook filter is `n` independent per-coordinate filters

The code works with the `2n`-dimensional state `(positions, velocities)`, `F = [[1, dt·1], [0, 1]]` (`dt = 1`),
`H = [1 0]`, diagonal process and measurement noise. `Model/Kalman.lean` models one coordinate (`C1`:
means `p, v`, covariance `[[a, b], [b, d]]`). This file states the **standard linear Kalman filter at matrix
level** (Mathlib `Matrix`, index type `Fin n ⊕ Fin n`) and proves, for every `n`, that on a covariance whose
four `n×n` blocks are diagonal

* the textbook prediction `m ↦ F m`, `P ↦ F P Fᵀ + Q` is `predict1` in every coordinate,
* the innovation covariance `S = H P Hᵀ + R` is diagonal, the textbook gain is `K = P Hᵀ S⁻¹`, and the textbook
  update `m ↦ m + K (z − H m)`, `P ↦ P − K S Kᵀ` is `update1` in every coordinate,
* the squared Mahalanobis distance `(z − H m)ᵀ S⁻¹ (z − H m)` is the sum of the per-coordinate `dist1`,

so the block-diagonal pattern is an invariant (`initiate` produces it) and the filter *is* `n` independent
constant-velocity filters: the per-coordinate theorems of `Props/C07.lean` (closed form, SPD, stationarity)
are statements about the matrix filter.
-/
namespace SimVerif.C07
open SimVerif.Kalman Matrix

variable {α : Type} [Field α] {n : ℕ}

/-- mean vector of `n` coordinates: positions, then velocities -/
def toMean (cs : Fin n → C1 α) : Fin n ⊕ Fin n → α := Sum.elim (fun i => (cs i).p) (fun i => (cs i).v)

/-- covariance of `n` independent coordinates: four diagonal blocks -/
def toCov (cs : Fin n → C1 α) : Matrix (Fin n ⊕ Fin n) (Fin n ⊕ Fin n) α :=
  fromBlocks (diagonal fun i => (cs i).a) (diagonal fun i => (cs i).b)
             (diagonal fun i => (cs i).b) (diagonal fun i => (cs i).d)

/-- constant-velocity transition, `dt = 1` -/
def Fm : Matrix (Fin n ⊕ Fin n) (Fin n ⊕ Fin n) α := fromBlocks 1 1 0 1

/-- measurement matrix `[1 0]`: positions are observed -/
def Hm : Matrix (Fin n) (Fin n ⊕ Fin n) α := fromCols 1 0

/-- process noise `diag(qp, qv)` -/
def Qm (qp qv : Fin n → α) : Matrix (Fin n ⊕ Fin n) (Fin n ⊕ Fin n) α :=
  fromBlocks (diagonal qp) 0 0 (diagonal qv)

theorem C07_matrix_predict_mean (cs : Fin n → C1 α) (qp qv : Fin n → α) :
    (Fm : Matrix _ _ α) *ᵥ toMean cs = toMean (fun i => predict1 (cs i) (qp i) (qv i)) := by
  simp only [Fm, toMean, fromBlocks_mulVec, Sum.elim_comp_inl, Sum.elim_comp_inr, one_mulVec, zero_mulVec, zero_add]
  rfl

theorem C07_matrix_predict_cov (cs : Fin n → C1 α) (qp qv : Fin n → α) :
    (Fm : Matrix _ _ α) * toCov cs * Fmᵀ + Qm qp qv = toCov (fun i => predict1 (cs i) (qp i) (qv i)) := by
  simp only [Fm, toCov, Qm, fromBlocks_transpose, fromBlocks_multiply, fromBlocks_add, Matrix.one_mul, Matrix.zero_mul,
    Matrix.mul_one, Matrix.mul_zero, transpose_one, transpose_zero, add_zero, zero_add, diagonal_add, add_assoc, predict1]

theorem C07_matrix_innovation (cs : Fin n → C1 α) (r : Fin n → α) :
    (Hm : Matrix _ _ α) * toCov cs * Hmᵀ + diagonal r = diagonal fun i => s1 (cs i) (r i) := by
  simp only [Hm, toCov, transpose_fromCols, fromCols_mul_fromBlocks, fromCols_mul_fromRows, Matrix.one_mul, Matrix.zero_mul,
    Matrix.mul_one, Matrix.mul_zero, transpose_one, transpose_zero, add_zero, diagonal_add, s1]

theorem Hm_mulVec_toMean (cs : Fin n → C1 α) : (Hm : Matrix _ _ α) *ᵥ toMean cs = fun i => (cs i).p := by
  unfold Hm toMean
  rw [fromCols_mulVec_sumElim, Matrix.one_mulVec, Matrix.zero_mulVec, add_zero]

/-- the textbook gain `K = P Hᵀ S⁻¹`, given as the matrix with `K · S = P Hᵀ` -/
def Km (cs : Fin n → C1 α) (r : Fin n → α) : Matrix (Fin n ⊕ Fin n) (Fin n) α :=
  fromRows (diagonal fun i => (cs i).a / s1 (cs i) (r i)) (diagonal fun i => (cs i).b / s1 (cs i) (r i))

theorem C07_matrix_gain (cs : Fin n → C1 α) (r : Fin n → α) (hs : ∀ i, s1 (cs i) (r i) ≠ 0) :
    Km cs r * (diagonal fun i => s1 (cs i) (r i)) = toCov cs * (Hm : Matrix _ _ α)ᵀ := by
  simp only [Km, Hm, toCov, transpose_fromCols, fromBlocks_mul_fromRows, fromRows_mul, transpose_one, transpose_zero,
    Matrix.mul_one, Matrix.mul_zero, add_zero, diagonal_mul_diagonal, div_mul_cancel₀ _ (hs _)]

theorem C07_matrix_update_mean (cs : Fin n → C1 α) (r z : Fin n → α) :
    toMean cs + Km cs r *ᵥ (z - (Hm : Matrix _ _ α) *ᵥ toMean cs) = toMean (fun i => update1 (cs i) (r i) (z i)) := by
  rw [Hm_mulVec_toMean, Km, fromRows_mulVec, toMean, ← Sum.elim_add_add]
  congr 1 <;> (funext i; simp only [Pi.add_apply, mulVec_diagonal, Pi.sub_apply, update1])

/-- Mathlib has `fromBlocks_add` and `fromBlocks_neg` only -/
theorem fromBlocks_sub {l m o p : Type} (A A' : Matrix l m α) (B B' : Matrix l p α) (C C' : Matrix o m α) (D D' : Matrix o p α) :
    fromBlocks A B C D - fromBlocks A' B' C' D' = fromBlocks (A - A') (B - B') (C - C') (D - D') := by
  ext (i | i) (j | j) <;> simp

theorem C07_matrix_update_cov (cs : Fin n → C1 α) (r z : Fin n → α) :
    toCov cs - Km cs r * (diagonal fun i => s1 (cs i) (r i)) * (Km cs r)ᵀ =
      toCov (fun i => update1 (cs i) (r i) (z i)) := by
  rw [Km, toCov, transpose_fromRows, fromRows_mul, fromRows_mul_fromCols]
  simp only [diagonal_transpose, diagonal_mul_diagonal, fromBlocks_sub, diagonal_sub, toCov, update1]
  -- what is left is the lower-left block, `k₂ s k₁ = k₁ s k₂`
  congr 2; funext i; ring

theorem C07_matrix_distance (cs : Fin n → C1 α) (r z : Fin n → α) :
    (z - (Hm : Matrix _ _ α) *ᵥ toMean cs) ⬝ᵥ
      ((diagonal fun i => (s1 (cs i) (r i))⁻¹) *ᵥ (z - (Hm : Matrix _ _ α) *ᵥ toMean cs)) =
      ∑ i, dist1 (cs i) (r i) (z i) := by
  simp only [Hm_mulVec_toMean, mulVec_diagonal, dotProduct, Pi.sub_apply, dist1]
  apply Finset.sum_congr rfl
  intro i _
  rw [div_eq_mul_inv]; ring

theorem C07_matrix_innovation_inv (cs : Fin n → C1 α) (r : Fin n → α) (hs : ∀ i, s1 (cs i) (r i) ≠ 0) :
    (diagonal fun i => s1 (cs i) (r i)) * (diagonal fun i => (s1 (cs i) (r i))⁻¹) = (1 : Matrix (Fin n) (Fin n) α) := by
  simp only [diagonal_mul_diagonal, mul_inv_cancel₀ (hs _), diagonal_one]

theorem C07_matrix_init (z sp sv : Fin n → α) :
    toMean (fun i => init1 (z i) (sp i) (sv i)) = Sum.elim z (fun _ => 0) ∧
    toCov (fun i => init1 (z i) (sp i) (sv i)) =
      fromBlocks (diagonal fun i => sp i * sp i) 0 0 (diagonal fun i => sv i * sv i) :=
  ⟨rfl, by simp only [toCov, init1, diagonal_zero]⟩

inductive Step (α : Type) (n : ℕ) where
  | predict (qp qv : Fin n → α)
  | update (r z : Fin n → α)

def stepC (cs : Fin n → C1 α) : Step α n → (Fin n → C1 α)
  | .predict qp qv => fun i => predict1 (cs i) (qp i) (qv i)
  | .update r z => fun i => update1 (cs i) (r i) (z i)

/-- the textbook matrix step on an arbitrary `(m, P)` (the gain is any `K` with `K S = P Hᵀ`; supplied here by `Km`
of the coordinates, justified by `C07_matrix_gain`) -/
def stepM (cs : Fin n → C1 α) (mP : (Fin n ⊕ Fin n → α) × Matrix (Fin n ⊕ Fin n) (Fin n ⊕ Fin n) α) :
    Step α n → (Fin n ⊕ Fin n → α) × Matrix (Fin n ⊕ Fin n) (Fin n ⊕ Fin n) α
  | .predict qp qv => ((Fm : Matrix _ _ α) *ᵥ mP.1, Fm * mP.2 * Fmᵀ + Qm qp qv)
  | .update r z => (mP.1 + Km cs r *ᵥ (z - (Hm : Matrix _ _ α) *ᵥ mP.1),
                    mP.2 - Km cs r * ((Hm : Matrix _ _ α) * mP.2 * Hmᵀ + diagonal r) * (Km cs r)ᵀ)

/-- **the block-diagonal pattern is an invariant, and the matrix filter is `n` independent filters**: starting from
`initiate`, any sequence of textbook predictions and updates keeps the state of the form `(toMean cs, toCov cs)`,
where `cs` evolves by `predict1` / `update1` coordinate-wise -/
theorem C07_blockdiag_inv (cs : Fin n → C1 α) (steps : List (Step α n)) :
    (steps.foldl (fun (st : (Fin n → C1 α) × ((Fin n ⊕ Fin n → α) × Matrix (Fin n ⊕ Fin n) (Fin n ⊕ Fin n) α)) s =>
        (stepC st.1 s, stepM st.1 st.2 s)) (cs, (toMean cs, toCov cs))).2 =
    (toMean (steps.foldl stepC cs), toCov (steps.foldl stepC cs)) := by
  induction steps generalizing cs with
  | nil => rfl
  | cons s rest ih =>
    simp only [List.foldl_cons]
    have hstep : stepM cs (toMean cs, toCov cs) s = (toMean (stepC cs s), toCov (stepC cs s)) := by
      cases s with
      | predict qp qv =>
        simp only [stepM, stepC, C07_matrix_predict_mean cs qp qv, C07_matrix_predict_cov]
      | update r z =>
        simp only [stepM, stepC, C07_matrix_innovation, C07_matrix_update_mean, C07_matrix_update_cov cs r z]
    rw [hstep]
    exact ih (stepC cs s)

/-- non-vacuity: after `initiate` with positive standard deviations and positive measurement noise the innovation
variance is non-zero, so the hypotheses of the gain / inverse theorems are met -/
example : s1 (init1 (3 : ℚ) 2 1) 1 ≠ 0 := by norm_num [s1, init1]

end SimVerif.C07
