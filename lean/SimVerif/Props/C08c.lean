import SimVerif.Lemmas.Clip
import Mathlib.Algebra.Order.Field.Rat
/-!
# C08, part C — the clip result lies in both rectangles (soundness of Sutherland–Hodgman)

For arbitrary subject and clip polygons every vertex of `shClip subject clipping` lies in every closed half-plane that
contains the subject (`C08_clip_in_subject_halfplanes`: crossing points are convex combinations of consecutive vertices)
and on the inner side of every clip edge (`C08_clip_in_clip_edges`). The four edge half-planes of a box cut out its closed
rectangle (`inBox_iff`), so the polygon whose area `intersection` reports has its vertices in both rectangles
(`C08_clip_sound`). With convexity this is `result ⊆ A ∩ B`; the converse and "shoelace = measure" (`C08_full` of
DESIGN §7, not stated in Lean) stay unproved.
-/
namespace SimVerif.C08c
open SimVerif.Geom
variable {α : Type} [Field α] [LinearOrder α] [IsStrictOrderedRing α]

theorem foldl_clipPass_halfplane (es : List (Pt α × Pt α)) (u w : Pt α) (poly : List (Pt α))
    (hall : ∀ x ∈ poly, cross x u w ≤ 0) :
    ∀ x ∈ es.foldl (fun poly e => clipPass e.1 e.2 poly) poly, cross x u w ≤ 0 := by
  induction es generalizing poly with
  | nil => exact hall
  | cons e es ih => exact ih _ (clipPass_halfplane e.1 e.2 u w poly hall)

theorem C08_clip_in_subject_halfplanes (subject clipping : List (Pt α)) (u w : Pt α)
    (hall : ∀ x ∈ subject, cross x u w ≤ 0) : ∀ x ∈ shClip subject clipping, cross x u w ≤ 0 := by
  rw [shClip_eq_foldl]
  exact foldl_clipPass_halfplane _ u w subject hall

/-- the pass of the edge puts the vertices on its inner side, and the later passes keep the half-plane -/
theorem C08_clip_in_clip_edges (subject clipping : List (Pt α)) :
    ∀ e ∈ cyclicEdges clipping, ∀ x ∈ shClip subject clipping, cross x e.1 e.2 ≤ 0 := by
  rw [shClip_eq_foldl]
  generalize cyclicEdges clipping = es
  induction es generalizing subject with
  | nil => intro e he; cases he
  | cons e' es ih =>
    intro e he
    rcases List.mem_cons.mp he with rfl | he
    · exact foldl_clipPass_halfplane es e.1 e.2 _ (clipPass_inside_own_edge e.1 e.2 subject)
    · exact ih _ e he

/-- `inBox` in box-frame coordinates: the two expressions on the right are the components of `frame c s u.xc u.yc p` -/
theorem inBox_iff (u : UBox α) (c s : α) (h : c * c + s * s = 1) (hh : 0 < u.height) (ha : 0 < u.aspect) (p : Pt α) :
    inBox u c s p ↔
      (-(u.height * u.aspect / two) ≤ (p.1 - u.xc) * c + (p.2 - u.yc) * s ∧
        (p.1 - u.xc) * c + (p.2 - u.yc) * s ≤ u.height * u.aspect / two) ∧
      (-(u.height / two) ≤ -(p.1 - u.xc) * s + (p.2 - u.yc) * c ∧
        -(p.1 - u.xc) * s + (p.2 - u.yc) * c ≤ u.height / two) := by
  rw [inBox, vertices_eq]
  nth_rewrite 1 [← rigid_frame u.xc u.yc h p]
  rw [inside_map_rigid _ _ h]
  exact inside_rect_iff (div_two_pos (mul_pos hh ha)) (div_two_pos hh) _

/-- C08 (soundness of the clip): every vertex of the polygon whose area `intersection` reports lies in both
closed rectangles -/
theorem C08_clip_sound (l r : UBox α) (cl sl cr sr : α)
    (hl : cl * cl + sl * sl = 1)
    (hlh : 0 < l.height) (hla : 0 < l.aspect) :
    ∀ p ∈ shClip (vertices l cl sl) (vertices r cr sr), inBox l cl sl p ∧ inBox r cr sr p := by
  intro p hp
  exact ⟨fun e he => C08_clip_in_subject_halfplanes _ _ e.1 e.2
      (fun x hx => vertices_inBox l cl sl hl hlh hla x hx e he) p hp,
    fun e he => C08_clip_in_clip_edges _ _ e he p hp⟩

/-- non-vacuity: the unit square at the origin, `(c, s) = (1, 0)`; `(1/2, 1/2)` is in the box, `(1, 0)` is not -/
example : ((1 : ℚ) * 1 + 0 * 0 = 1) ∧ (0 : ℚ) < 1 ∧
    inBox ({ xc := 0, yc := 0, angle := none, aspect := 1, height := 1, conf := 1 } : UBox ℚ) 1 0 (1/2, 1/2) ∧
    ¬ inBox ({ xc := 0, yc := 0, angle := none, aspect := 1, height := 1, conf := 1 } : UBox ℚ) 1 0 (1, 0) := by
  refine ⟨by norm_num, by norm_num, ?_, ?_⟩
  · rw [inBox_iff _ _ _ (by norm_num) (by norm_num) (by norm_num)]
    simp only [two]; norm_num
  · rw [inBox_iff _ _ _ (by norm_num) (by norm_num) (by norm_num)]
    simp only [two]; norm_num

end SimVerif.C08c
