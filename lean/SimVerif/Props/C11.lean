import SimVerif.Model.Store
import SimVerif.Lemmas.Track
/-!
# C11 — track updates are atomic under callback failures; merge history intact

Models: `SimVerif.Track` (`addObservation`, `merge`), `SimVerif.Store` (`add`, `mergeExternal`,
`mergeOwned`). Every theorem is for **every** family of callbacks `cb` (arbitrary functions
returning errors), so it covers every position at which `apply`, the attribute merge or `optimize`
for the k-th class can fail.
-/
namespace SimVerif.C11
open SimVerif.Track SimVerif.Store

variable {TA M OA U Q E : Type}

/-- `add_observation`: an error leaves the track exactly as it was (all five parts) with no
notification; success emits exactly one. -/
theorem C11_add_atomic (cb : Cb TA M OA U Q E) (t : Track TA M OA) (cls : Nat) (o : Option OA) (u : Option U) :
    (∀ e, (addObservation cb t cls o u).1 = .error e →
        (addObservation cb t cls o u).2.1 = t ∧ (addObservation cb t cls o u).2.2 = 0) ∧
    ((addObservation cb t cls o u).1 = .ok () → (addObservation cb t cls o u).2.2 = 1) := by
  unfold addObservation
  cases u with
  | none =>
    cases o with
    | none => simp
    | some o => dsimp only; split <;> simp_all
  | some u =>
    dsimp only
    cases h : cb.apply u t.attrs with
    | error e => simp
    | ok a =>
      cases o with
      | none => simp
      | some o => dsimp only; split <;> simp_all

/-- `Track::merge`: an error leaves the destination exactly as it was with no notification; success
emits exactly one. -/
theorem C11_merge_atomic (cb : Cb TA M OA U Q E) (dst src : Track TA M OA) (classes : List Nat) (flag : Bool) :
    (∀ e, (merge cb dst src classes flag).1 = .error e →
        (merge cb dst src classes flag).2.1 = dst ∧ (merge cb dst src classes flag).2.2 = 0) ∧
    ((merge cb dst src classes flag).1 = .ok () → (merge cb dst src classes flag).2.2 = 1) := by
  unfold merge
  cases cb.mergeA dst.attrs src.attrs with
  | error e => simp
  | ok a =>
    dsimp only
    split <;> simp

/-- Merge history after a successful merge: the previous history followed **once** by the source's
when history is enabled and some requested class is present in either track; unchanged otherwise.
In particular it is never emptied, truncated or extended twice. -/
theorem C11_history (cb : Cb TA M OA U Q E) (dst src : Track TA M OA) (classes : List Nat) (flag : Bool)
    (h : (merge cb dst src classes flag).1 = .ok ()) :
    (merge cb dst src classes flag).2.1.hist =
      (if flag && classes.any (fun c => (getObs dst.obs c).isSome || (getObs src.obs c).isSome)
       then dst.hist ++ src.hist else dst.hist) := by
  unfold merge at h ⊢
  cases hm : cb.mergeA dst.attrs src.attrs with
  | error e => simp [hm] at h
  | ok a =>
    simp only [hm] at h ⊢
    split
    · rename_i e heq; simp [heq] at h
    · rename_i st heq
      have hany := mergeLoop_any cb src _ classes _ st heq
      simp only [Bool.false_or] at hany
      simp only [hany]
      cases flag <;> simp

theorem C11_history_on_failure (cb : Cb TA M OA U Q E) (dst src : Track TA M OA) (classes : List Nat) (flag : Bool)
    (e : Err E) (h : (merge cb dst src classes flag).1 = .error e) :
    (merge cb dst src classes flag).2.1.hist = dst.hist := by
  rw [((C11_merge_atomic cb dst src classes flag).1 e h).1]

/-- A failing `store.add`, `merge_external` or `merge_owned` leaves the store unchanged (for
`merge_owned` both tracks are still stored). -/
theorem C11_store_atomic (cb : Cb TA M OA U Q E) (s : Store TA M OA) :
    (∀ id cls o u e, (add cb s id cls o u).1 = .error e → (add cb s id cls o u).2.1 = s) ∧
    (∀ dest src classes flag e, (mergeExternal cb s dest src classes flag).1 = .error e →
        (mergeExternal cb s dest src classes flag).2.1 = s) ∧
    (∀ dest srcId classes rm flag e, (mergeOwned cb s dest srcId classes rm flag).1 = .error e →
        (mergeOwned cb s dest srcId classes rm flag).2.1 = s) := by
  refine ⟨fun id cls o u e => ?_, fun dest src classes flag e => ?_, fun dest srcId classes rm flag e => ?_⟩
  · unfold add
    cases find s id with
    | some t =>
      dsimp only
      rcases addObservation cb t cls o u with ⟨_ | _, t', k⟩
      · exact fun _ => rfl
      · exact fun h => nomatch h
    | none =>
      dsimp only
      rcases build cb id s.defMetric s.defAttrs [(cls, o, u)] with ⟨_ | t, k⟩
      · exact fun _ => rfl
      · exact fun h => nomatch h
  · unfold mergeExternal
    cases find s dest with
    | none => exact fun _ => rfl
    | some d =>
      dsimp only
      split
      · exact fun _ => rfl
      · rcases merge cb d src (mergeClasses classes src) flag with ⟨_ | ⟨⟨⟩⟩, d', k⟩
        · exact fun _ => rfl
        · exact fun h => nomatch h
  · unfold mergeOwned
    cases find s srcId with
    | none => exact fun _ => rfl
    | some src =>
      dsimp only
      rcases mergeExternal cb (remove s srcId) dest src classes flag with ⟨_ | ⟨⟨⟩⟩, s2, k⟩
      · exact fun _ => rfl
      · cases rm <;> exact fun h => nomatch h

/-! ### non-vacuity: callbacks that fail at the second class, after mutating their arguments -/
private def cbx : Cb Nat Nat Nat Unit Unit Unit where
  apply _ a := .ok (a + 1)
  mergeA a b := .ok (a + b)
  optimize m cls _ a obs _ _ := if cls == 1 then .error () else .ok (m + 1, a + 10, obs)
  compatible _ _ := true
  baked _ _ := .ok .ready
  metric _ _ _ _ _ := none
  postprocess _ v := v
  lookup _ _ _ _ := true

private def d0 : Track Nat Nat Nat := { id := 1, attrs := 5, obs := [(0, [7]), (1, [8])], metric := 0, hist := [1] }
private def s0 : Track Nat Nat Nat := { id := 2, attrs := 3, obs := [(0, [9]), (1, [4])], metric := 0, hist := [2] }

example : (merge cbx d0 s0 [0, 1] true).1 = .error (.cb ()) ∧ (merge cbx d0 s0 [0, 1] true).2.1 = d0 := ⟨rfl, rfl⟩
example : (merge cbx d0 s0 [0] true).1 = .ok () ∧ (merge cbx d0 s0 [0] true).2.1.hist = [1, 2] ∧
    (merge cbx d0 s0 [0] false).2.1.hist = [1] ∧ (merge cbx d0 s0 [5] true).2.1.hist = [1] := ⟨rfl, rfl, rfl, rfl⟩

end SimVerif.C11
