import SimVerif.Props.C20
import SimVerif.Tie.Constr
/-!
# C20 at source level

The constraint-table theorems restated for the **generated** `add_constraints` / `validate`
(`Gen.L.*`, regenerated from `src/trackers/spatio_temporal_constraints.rs` on every run; `Tie/Constr.lean`).
-/
namespace SimVerif.C20
open SimVerif.Constraints SimVerif.Tie SimVerif.Gen.L

/-- the table the source holds after `add_constraints` is strictly sorted by gap; `calls` and `hcs` are not needed (any `cs` will do) -/
theorem C20_source_sorted (cs new : List (Nat × Rat)) (hpos : new.all (fun e => decide (e.2 > 0)) = true)
    (calls : List (List Entry)) (hcs : build calls = some cs) :
    (add_constraints cs new).Pairwise (fun a b => a.1 < b.1) := by
  have h := tie_add_constraints cs new hpos
  have hb : build (new :: calls) = some (add_constraints cs new) := by
    simp only [build, hcs, h]
  exact (C20_table (new :: calls) _ hb).1

/-- `h0` is not needed: the generated `validate` has no assertion on the distance -/
theorem C20_source_monotone (t : List (Nat × Rat)) (d : Nat) (x₁ x₂ : Rat) (h0 : 0 ≤ x₁) (h : x₁ ≤ x₂)
    (hv : constraints_validate t d x₂ = true) : constraints_validate t d x₁ = true := by
  have h1 := tie_constraints_validate t d x₁ (Rat.not_lt.mpr h0)
  have h2 := tie_constraints_validate t d x₂ (Rat.not_lt.mpr (Rat.le_trans h0 h))
  have := C20_monotone t d x₁ x₂ h0 h (by rw [h2, hv])
  rw [h1] at this
  exact Option.some.inj this

end SimVerif.C20
