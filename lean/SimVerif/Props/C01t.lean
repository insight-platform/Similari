import SimVerif.Tie.Apply
import SimVerif.Tie.SortVoting
/-!
# C01 at source level, continued: the winners the apply loop reads are never empty

`Tie/Apply.lean` reads `dest[0]` of the winners table with a default on an empty list (Rust would panic there). For the table
`SortVoting::winners` returns — as generated from the source, `Tie/SortVoting.lean` — every entry is a **singleton** list, so the
default is never taken: the id the loop continues is the one the assignment chose.
-/
namespace SimVerif.C01
open SimVerif.Tie SimVerif.Gen.L

theorem C01_source_winners_singleton (quant : Rat → Int) (mult : Rat) (km : (Nat → Nat → Int) → Int × List Nat) (thr : Int) (cn tn : Nat)
    (ds : List SD) : ∀ p ∈ sort_voting_winners quant mult km thr cn tn ds, ∃ d, p.2 = [d] := by
  intro p hp
  by_cases htn : tn = 0
  · subst htn; rw [tie_sort_voting_empty] at hp; cases hp
  · rw [tie_sort_voting_winners quant mult km thr cn tn ds htn] at hp
    simp only [List.mem_filterMap] at hp
    obtain ⟨q, _, hq⟩ := hp
    split at hq
    · cases hq; exact ⟨_, rfl⟩
    · cases hq

/-- hence what the apply loop reads for a candidate present in the table is that single winner -/
theorem C01_source_pick_is_winner (w : List (Nat × List Nat)) (src d : Nat) (h : mapGet w src = some [d]) :
    pickOf w src = if d = src then none else some d := by
  unfold pickOf; rw [h]; rfl

end SimVerif.C01
