import SimVerif.Lemmas.OwnArea
import Mathlib.Algebra.Order.BigOperators.Group.List
/-!
# C15 — exclusively-owned area share (grid model, axis-aligned boxes)
Model: `SimVerif.OwnArea` — `src/utils/clipping/bbox_own_areas.rs`.
-/
namespace SimVerif.C15
open SimVerif.OwnArea List

/-- two boxes overlap in no area (they may touch) -/
def apart (a b : ABox) : Prop := a.x1 ≤ b.x0 ∨ b.x1 ≤ a.x0 ∨ a.y1 ≤ b.y0 ∨ b.y1 ≤ a.y0

def within (a b : ABox) : Prop := b.x0 ≤ a.x0 ∧ a.x1 ≤ b.x1 ∧ b.y0 ≤ a.y0 ∧ a.y1 ≤ b.y1

theorem apart_cell_zero {b o : ABox} {c : Cell} (h : apart b o) (hle : c.xa ≤ c.xb ∧ c.ya ≤ c.yb)
    (hb : inside c b = true) (ho : inside c o = true) : c.area = 0 := by
  rw [inside_iff] at hb ho
  unfold Cell.area
  -- one side of the cell is squeezed between the facing sides of the two boxes
  rcases h with h | h | h | h
  · rw [sub_eq_zero.mpr (le_antisymm (hb.2.1.trans (h.trans ho.1)) hle.1), zero_mul]
  · rw [sub_eq_zero.mpr (le_antisymm (ho.2.1.trans (h.trans hb.1)) hle.1), zero_mul]
  · rw [sub_eq_zero.mpr (le_antisymm (hb.2.2.2.trans (h.trans ho.2.2.1)) hle.2), mul_zero]
  · rw [sub_eq_zero.mpr (le_antisymm (ho.2.2.2.trans (h.trans hb.2.2.1)) hle.2), mul_zero]

theorem within_inside {b o : ABox} {c : Cell} (h : within b o) (hb : inside c b = true) :
    inside c o = true := by
  rw [inside_iff] at hb ⊢
  obtain ⟨h1, h2, h3, h4⟩ := h
  exact ⟨le_trans h1 hb.1, le_trans hb.2.1 h2, le_trans h3 hb.2.2.1, le_trans hb.2.2.2 h4⟩

theorem C15_own_range (b : ABox) (others : List ABox) (hwf : ∀ a ∈ b :: others, a.wf) :
    0 ≤ own b others ∧ own b others ≤ b.area := by
  rw [own, rsum_eq_sum]
  constructor
  · refine sum_nonneg fun x hx => ?_
    obtain ⟨c, hc, rfl⟩ := mem_map.mp hx
    split
    exacts [cell_area_nonneg _ c hc, le_rfl]
  · -- summand by summand below the tiling of `b`
    rw [← cells_tile b (b :: others) (by simp) (hwf b (by simp)), rsum_eq_sum]
    refine sum_le_sum fun c hc => ?_
    have hn := cell_area_nonneg _ c hc
    cases inside c b <;> cases others.any (inside c) <;> simp [hn]

theorem C15_range (b : ABox) (others : List ABox) (hwf : ∀ a ∈ b :: others, a.wf) :
    0 ≤ share b others ∧ share b others ≤ 1 := by
  have hr := C15_own_range b others hwf
  have hbwf := hwf b (by simp)
  have ha : 0 ≤ b.area := mul_nonneg (sub_nonneg.mpr hbwf.1) (sub_nonneg.mpr hbwf.2)
  have hd : 0 < b.area + Gen.EPS := add_pos_of_nonneg_of_pos ha EPS_pos
  unfold share shareOf
  simp only
  split_ifs with hlt
  · exact ⟨zero_le_one, le_rfl⟩
  · exact ⟨div_nonneg hr.1 hd.le, (not_le.mp hlt).le⟩

/-- the share is then `area / (area + EPS)`: 1 up to the regulariser -/
theorem C15_disjoint (b : ABox) (others : List ABox) (hwf : ∀ a ∈ b :: others, a.wf)
    (h : ∀ o ∈ others, apart b o) : own b others = b.area := by
  have ht := cells_tile b (b :: others) (by simp) (hwf b (by simp))
  rw [← ht]
  unfold own
  refine congrArg rsum (map_congr_left fun c hc => ?_)
  by_cases h1 : inside c b = true
  · by_cases h2 : others.any (inside c) = true
    · have hz : c.area = 0 := by
        obtain ⟨o, ho, hio⟩ := any_eq_true.1 h2
        exact apart_cell_zero (h o ho) (cell_le hc) h1 hio
      simp [h1, h2, hz]
    · simp [h1, h2]
  · simp [h1]

theorem C15_disjoint_share (b : ABox) (others : List ABox) (hwf : ∀ a ∈ b :: others, a.wf)
    (h : ∀ o ∈ others, apart b o) (hpos : 0 < b.area) :
    1 - share b others ≤ Gen.EPS / b.area := by
  have hd : 0 < b.area + Gen.EPS := add_pos hpos EPS_pos
  rw [share, shareOf, C15_disjoint b others hwf h]
  split_ifs
  · rw [sub_self]
    exact div_nonneg EPS_pos.le hpos.le
  · rw [one_sub_div hd.ne', add_sub_cancel_left]
    exact div_le_div_of_nonneg_left EPS_pos.le hpos (le_add_of_nonneg_right EPS_pos.le)

theorem C15_covered (b : ABox) (others : List ABox) (o : ABox) (ho : o ∈ others) (h : within b o) :
    own b others = 0 ∧ share b others = 0 := by
  have hown : own b others = 0 := by
    rw [own, rsum_eq_sum]
    refine sum_eq_zero fun x hx => ?_
    obtain ⟨c, -, rfl⟩ := mem_map.mp hx
    by_cases h1 : inside c b = true
    · have h2 : others.any (inside c) = true :=
        any_eq_true.2 ⟨o, ho, within_inside h h1⟩
      simp [h2]
    · simp [h1]
  refine ⟨hown, ?_⟩
  unfold share shareOf
  rw [hown]
  simp

theorem C15_perm (b : ABox) (o₁ o₂ : List ABox) (h : o₁ ~ o₂) : own b o₁ = own b o₂ := by
  unfold own
  rw [cells_congr (Perm.cons b h)]
  refine congrArg rsum (map_congr_left fun c _ => ?_)
  rw [h.any_eq]

/-- the shares of a permuted input are a permutation of the shares, as lists of numbers: which share belongs to which box is
not stated here; the per-box fact is `C15_perm` -/
theorem C15_perm_shares (l₁ l₂ : List ABox) (h : l₁ ~ l₂) : shares l₁ ~ shares l₂ := by
  have e : ∀ l, shares l = eachVsRest share l := fun l => map_range_eq_eachVsRest share l
  rw [e l₁, e l₂]
  apply eachVsRest_perm h
  intro b o₁ o₂ ho
  unfold share
  rw [C15_perm b o₁ o₂ ho]

/-- **Cells are uniform** (why the grid model is the uncovered area): a point strictly inside a cell
of the grid lies in a box of the set iff the whole cell lies inside that box. -/
theorem C15_cell_uniform (all : List ABox) (o : ABox) (ho : o ∈ all) (c : Cell) (hc : c ∈ cells all)
    (x y : Rat) (hx : c.xa < x ∧ x < c.xb) (hy : c.ya < y ∧ y < c.yb) :
    (o.x0 ≤ x ∧ x ≤ o.x1 ∧ o.y0 ≤ y ∧ y ≤ o.y1) ↔ inside c o = true := by
  obtain ⟨sx, hsx, sy, hsy, rfl⟩ := mem_cells.1 hc
  rw [inside_iff]
  exact and_assoc.symm.trans <|
    (and_congr (seg_uniform (xcuts_sorted all) hsx (mem_xcuts ho).1 (mem_xcuts ho).2 hx)
      (seg_uniform (ycuts_sorted all) hsy (mem_ycuts ho).1 (mem_ycuts ho).2 hy)).trans and_assoc

/-! ### non-vacuity: the staircase of the library's own unit test -/
example : own ⟨0,0,10,10⟩ [⟨5,5,15,15⟩, ⟨10,10,20,20⟩] = 75 ∧ own ⟨5,5,15,15⟩ [⟨0,0,10,10⟩, ⟨10,10,20,20⟩] = 50 := by
  decide +kernel

end SimVerif.C15
