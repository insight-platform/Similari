import SimVerif.Tie.VisVoting
/-!
# C12 at source level

Facts about the cascade specification `vvSpec`, which `Tie/VisVoting.lean` proves equal to the generated `VisualVoting::winners`
(the model-level C12 of `Props/C12.lean` is not used here): a detection with an entry in the BestFit result is decided by
appearance, with voting type Visual, and never reaches the positional stage; a track named by the appearance stage is withheld
from it; the positional stage sees exactly the remaining distances that carry a positional weight.
-/
namespace SimVerif.C12
open SimVerif.Voting SimVerif.Tie SimVerif.Gen.L

theorem C12_source_positional_rest (fw : List (Nat × List Elt)) (ds : List VD) (e : VD) (he : e ∈ vvRemaining fw ds) :
    e ∈ ds ∧ (mapGet (vvFeature fw) e.frm) = none ∧ (vvExcluded fw).contains e.to = false ∧ e.attr.isSome = true := by
  unfold vvRemaining at he
  rw [List.mem_filter] at he
  obtain ⟨hm, hc⟩ := he
  simp only [Bool.and_eq_true, Bool.not_eq_true', Bool.or_eq_false_iff] at hc
  refine ⟨hm, ?_, hc.1.2, hc.2⟩
  cases h : mapGet (vvFeature fw) e.frm with
  | none => rfl
  | some v => rw [h] at hc; simp at hc

/-- `hkeys` (the positional stage only answers for candidates it was given) is an assumption on the parameter `sortVotingFn`; it
is not proved for `sort_voting_winners` -/
theorem C12_source_visual_first (bestfitFn : Rat → Nat → List VD → List (Nat × List Elt)) (sortVotingFn : Rat × Nat × Nat → List VD → List (Nat × List Nat))
    (thr maxF : Rat) (mv : Nat) (ds : List VD) (q : Nat) (v : List (Nat × Bool))
    (hkeys : ∀ cfg rem, ∀ p ∈ sortVotingFn cfg rem, ∃ e ∈ rem, e.frm = p.1)
    (hq : mapGet (vvFeature (bestfitFn maxF mv ds)) q = some v) :
    mapGet (visual_voting_winners bestfitFn sortVotingFn thr maxF mv ds) q = some v := by
  rw [tie_visual_voting_winners]
  unfold vvSpec
  simp only []
  rw [mapGet_mapExtend_of_not_mem _ _ q, hq]
  intro p hp hpq
  obtain ⟨p0, hp0, rfl⟩ := List.mem_map.mp hp
  obtain ⟨e, he, hfrm⟩ := hkeys _ _ p0 hp0
  -- `e` reached the positional stage, so its detection has no appearance entry — but it is `q`
  obtain ⟨_, hnone, _, _⟩ := C12_source_positional_rest _ ds e he
  simp only at hpq
  rw [hfrm, hpq, hq] at hnone
  cases hnone

theorem C12_source_visual_type (fw : List (Nat × List Elt)) (q : Nat) (v : List (Nat × Bool)) (h : mapGet (vvFeature fw) q = some v) :
    ∃ w : List Elt, v = [((w[0]!).w, true)] := by
  unfold vvFeature at h
  rw [mapGet_map_snd (fun (w : List Elt) => [((w[0]!).w, true)])] at h
  obtain ⟨w, _, rfl⟩ := Option.map_eq_some_iff.mp h
  exact ⟨w, rfl⟩

end SimVerif.C12
