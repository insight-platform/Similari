import SimVerif.Props.C03
import SimVerif.Tie.Epoch
import SimVerif.Tie.AutoWaste
import SimVerif.Tie.Gc
/-!
# C03 at source level

For the functions generated from `src/trackers/epoch_db.rs`, the collection countdown of the four `predict` functions and the
default methods of `TrackerAPI` (`Tie/Epoch.lean`, `Tie/AutoWaste.lean`, `Tie/Gc.lean`). The countdown only decides **when**
`auto_waste` runs — it is the model's `awStep`, and `C03_gc_unobservable` (`Props/C03b/C03c`) shows that this timing cannot be
observed.
-/
namespace SimVerif.C03
open SimVerif.Tracker SimVerif.Tie SimVerif.Gen.L

theorem C03_source_expiry (cfg : Cfg) (st : St) (t : Trk) :
    epoch_baked (some st.epochs) cfg.maxIdle t.scene t.lastUpd = Status.wasted ↔
      t.lastUpd + cfg.maxIdle < epochOf st t.scene := by
  rw [tie_epoch_baked, ← C03_expiry]
  cases expired cfg st t <;> simp

/-- one `predict` of a scene followed by a `skip` of `n`: that scene's epoch has grown by exactly `1 + n`, every other scene's
epoch is what it was -/
theorem C03_source_epochs (m : List (Nat × Nat)) (s n : Nat) :
    ∃ m1 m2, epoch_next (some m) s = (some (epochIn m s + 1), some m1) ∧ epoch_skip (some m1) s n = ((), some m2) ∧
      ∀ s', epochIn m2 s' = if s' = s then epochIn m s + 1 + n else epochIn m s' := by
  obtain ⟨m1, h1, e1⟩ := tie_epoch_next m s
  obtain ⟨m2, h2, e2⟩ := tie_epoch_skip m1 s n
  refine ⟨m1, m2, h1, h2, fun s' => ?_⟩
  rw [e2, e1, e1, if_pos rfl]
  by_cases h : s' = s <;> simp [h]

/-- the countdown of the simple SORT tracker's `predict` is the model's `awStep` (and likewise for the other three trackers,
`Tie/AutoWaste.lean`): after `set_auto_waste p` the next `predict` collects and re-arms the counter with `p` -/
theorem C03_source_countdown_after_set (cfg : Cfg) (st : St) (p : Nat) :
    awResult (aw_sort (collect cfg) (setAutoWaste st p) (setAutoWaste st p).awCounter (setAutoWaste st p).awPeriod) =
      { collect cfg (setAutoWaste st p) with awCounter := p } := by
  rw [tie_aw_sort]
  simp [awStep, setAutoWaste]

/-- **collection at source level** (`TrackerAPI::auto_waste` as generated, on the list store with the stand-in `addTrackG`,
which never refuses a track: that the call returns at all is owed to it): a live track stays in the main store exactly when it
is not expired, and what reaches the wasted store is what was there plus exactly the expired live tracks -/
theorem C03_source_auto_waste (cfg : Cfg) (st : St) (hnd : (st.live.map (·.id)).Nodup) :
    ∃ main wst, gc_auto_waste (findUsableM cfg) fetchTracksM addTrackG st st.live st.wasted = some (main, wst) ∧
      (∀ t, t ∈ main ↔ (t ∈ st.live ∧ expired cfg st t = false)) ∧
      (∀ t, t ∈ wst ↔ (t ∈ st.wasted ∨ (t ∈ st.live ∧ expired cfg st t = true))) := by
  refine ⟨_, _, tie_gc_auto_waste cfg st hnd, ?_, ?_⟩
  · intro t; simp [collect, List.mem_filter]
  · intro t; simp [collect, List.mem_append, List.mem_filter]

/-- **`wasted()` at source level** (on the same stand-ins; `hexp`, that the wasted store holds expired tracks only, is a
hypothesis no theorem establishes): it empties the wasted store and hands out only tracks that were already wasted or that were
live and expired -/
theorem C03_source_wasted (cfg : Cfg) (st : St) (hnd : (st.live.map (·.id)).Nodup)
    (hndw : (((collect cfg st).wasted).map (·.id)).Nodup) (hexp : ∀ t ∈ (collect cfg st).wasted, expired cfg st t = true) :
    ∃ main out, gc_wasted (findUsableM cfg) fetchTracksM addTrackG st st.live st.wasted = some ((main, []), out) ∧
      (∀ t ∈ out, t ∈ st.wasted ∨ (t ∈ st.live ∧ expired cfg st t = true)) := by
  refine ⟨_, _, tie_gc_wasted cfg st hnd hndw hexp, fun t ht => ?_⟩
  simpa only [wastedOp, collect, List.mem_append, List.mem_filter] using ht

end SimVerif.C03
