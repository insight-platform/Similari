import SimVerif.Lemmas.Rigid
import Mathlib.Algebra.Order.Floor.Ring
import Mathlib.Tactic.Ring
/-!
# C19 — box representations agree; box equality is a symmetric tolerance relation

Model: `SimVerif.Geom` (conversions, `vertices`, `ueq` / `beq`, `normalizeAngle` of src/utils/bbox.rs).
-/
namespace SimVerif.C19
open SimVerif.Geom

variable {α : Type} [Field α] [LinearOrder α] [IsStrictOrderedRing α]

/-- ltwh → universal → ltwh returns the same box (the code divides by the height). `LinearOrder`, `IsStrictOrderedRing` are not
used (here and in the next). -/
theorem C19_roundtrip (b : BBox α) (h : b.height ≠ 0) : toLtwh (toUniversal b) = some b := by
  cases b with
  | mk l t w hh c =>
    simp only [toUniversal, toLtwh, Option.some.injEq, BBox.mk.injEq, and_true] at h ⊢
    -- the width comes back as `hh * (w / hh)`
    rw [mul_div_cancel₀ w h]
    exact ⟨add_sub_cancel_right _ _, add_sub_cancel_right _ _, rfl⟩

theorem C19_roundtrip' (u : UBox α) (h : u.height ≠ 0) (ha : u.angle = none) :
    (toLtwh u).map toUniversal = some u := by
  cases u with
  | mk xc yc ang asp hh c =>
    simp only at ha h
    subst ha
    simp only [toLtwh, toUniversal, Option.map_some, Option.some.injEq, UBox.mk.injEq, and_true, true_and]
    exact ⟨sub_add_cancel _ _, sub_add_cancel _ _, mul_div_cancel_left₀ asp h⟩

theorem C19_polygon_vertices (u : UBox α) (c s : α) :
    let w := u.height * u.aspect
    let h := u.height
    vertices u c s =
      [(u.xc + (c * (-w/2) - s * (h/2)), u.yc + (s * (-w/2) + c * (h/2))),
       (u.xc + (c * (w/2) - s * (h/2)), u.yc + (s * (w/2) + c * (h/2))),
       (u.xc + (c * (w/2) - s * (-h/2)), u.yc + (s * (w/2) + c * (-h/2))),
       (u.xc + (c * (-w/2) - s * (-h/2)), u.yc + (s * (-w/2) + c * (-h/2)))] := by
  simp only [vertices, two, List.cons.injEq, Prod.mk.injEq, and_true]
  refine ⟨⟨?_, ?_⟩, ⟨?_, ?_⟩, ⟨?_, ?_⟩, ⟨?_, ?_⟩⟩ <;> ring

/-- the ring is clockwise, `shoelace2 = −2·w·h`; the unsigned area is the box area `w·h` -/
theorem C19_polygon_area (u : UBox α) (c s : α) (hcs : c * c + s * s = 1)
    (hh : 0 ≤ u.height) (ha : 0 ≤ u.aspect) :
    polyArea (vertices u c s) = area u := by
  have hnn : 0 ≤ u.height * u.aspect * u.height := mul_nonneg (mul_nonneg hh ha) hh
  rw [polyArea, vertices_eq, shoelace2_rigid _ _ hcs, shoelace2_rect, absv_eq, abs_neg, area, two_eq]
  rw [show 8 * (u.height * u.aspect / 2 * (u.height / 2)) = 2 * (u.height * u.aspect * u.height) by ring,
    abs_of_nonneg (mul_nonneg zero_le_two hnn), mul_div_cancel_left₀ _ two_ne_zero]

theorem C19_polygon_centre_radius (u : UBox α) (c s : α) (hcs : c * c + s * s = 1) :
    (((vertices u c s).map (·.1)).sum = 4 * u.xc ∧ ((vertices u c s).map (·.2)).sum = 4 * u.yc) ∧
    ∀ p ∈ vertices u c s, (p.1 - u.xc) * (p.1 - u.xc) + (p.2 - u.yc) * (p.2 - u.yc) = radiusSq u := by
  refine ⟨⟨sum_plus_minus _ _ _, sum_plus_minus _ _ _⟩, ?_⟩
  -- a vertex is the image of a corner `(±hw, ±hh)` of `rect`, the centre that of the origin
  rw [vertices_eq, List.forall_mem_map]
  intro q hq
  rw [rigid_centre_distSq _ _ hcs, rect_normSq _ _ q hq, radiusSq, mul_comm u.aspect]

theorem C19_eq_refl (eps : α) (he : 0 < eps) (a : UBox α) (b : BBox α) :
    ueq eps a a = true ∧ beq eps b b = true := by
  simp [ueq, beq, absv_eq, he]

theorem C19_eq_symm (eps : α) (a b : UBox α) (c d : BBox α) :
    ueq eps a b = ueq eps b a ∧ beq eps c d = beq eps d c := by
  simp only [ueq, beq, absv_eq]
  constructor <;> simp only [abs_sub_comm]

/-- Equality holds exactly when **every** coordinate — angle, aspect, height included — differs by
less than `EPS`: so it holds when all are within `EPS` and fails when any one is beyond it. -/
theorem C19_eq_iff (eps : α) (a b : UBox α) :
    ueq eps a b = true ↔
      |a.xc - b.xc| < eps ∧ |a.yc - b.yc| < eps ∧ |a.angle.getD 0 - b.angle.getD 0| < eps ∧
      |a.aspect - b.aspect| < eps ∧ |a.height - b.height| < eps := by
  simp only [ueq, absv_eq, Bool.and_eq_true, decide_eq_true_eq, and_assoc]

theorem C19_beq_iff (eps : α) (a b : BBox α) :
    beq eps a b = true ↔
      |a.left - b.left| < eps ∧ |a.top - b.top| < eps ∧ |a.width - b.width| < eps ∧
      |a.height - b.height| < eps ∧ |a.conf - b.conf| < eps := by
  simp only [beq, absv_eq, Bool.and_eq_true, decide_eq_true_eq, and_assoc]

theorem C19_eq_far (eps : α) (a b : UBox α)
    (h : eps < |a.xc - b.xc| ∨ eps < |a.yc - b.yc| ∨ eps < |a.angle.getD 0 - b.angle.getD 0| ∨
         eps < |a.aspect - b.aspect| ∨ eps < |a.height - b.height|) : ueq eps a b = false := by
  rw [Bool.eq_false_iff]
  intro hc
  obtain ⟨h1, h2, h3, h4, h5⟩ := (C19_eq_iff eps a b).mp hc
  rcases h with h | h | h | h | h <;> exact absurd h (not_lt.mpr (le_of_lt (by assumption)))

theorem C19_normalize [FloorRing α] (pix2 : α) (hp : 0 < pix2) (a : α) :
    let r := normalizeAngle (fun x => ((⌊x⌋ : ℤ) : α)) pix2 a
    0 ≤ r ∧ r < pix2 ∧ ∃ k : ℤ, a = r + k * pix2 := by
  have h0 := Int.sub_floor_div_mul_nonneg a hp
  simp only [normalizeAngle]
  rw [if_neg h0.not_gt]
  exact ⟨h0, Int.sub_floor_div_mul_lt a hp, ⌊a / pix2⌋, (sub_add_cancel _ _).symm⟩

example : toLtwh (toUniversal ({ left := 1, top := 2, width := 10, height := 4, conf := 1 } : BBox ℚ))
    = some { left := 1, top := 2, width := 10, height := 4, conf := 1 } := C19_roundtrip _ (by norm_num)
example : ueq (1/100000 : ℚ) ⟨0, 0, none, 1, 2, 1⟩ ⟨0, 0, none, 1, 3, 1⟩ = false :=
  C19_eq_far _ _ _ (by norm_num)
-- `c² + s² = 1` is met by a proper rotation
example : (3/5 : ℚ) * (3/5) + (4/5) * (4/5) = 1 := by norm_num

end SimVerif.C19
