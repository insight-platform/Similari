import SimVerif.Lemmas.Tracker
import SimVerif.Props.C05b
import SimVerif.Lemmas.AssignCert
/-!
# C05, part C — validity of an association does not depend on the order of the distance table

A different shard count or worker schedule can only permute the distance table the voting sees
(`C05_query_perm`). `C05_validChoice_perm`: for a table with distinct (detection, track) pairs the *whole*
validity predicate of the tracker model — admissibility, gating, one-to-one-ness and maximality of the total
weight — gives the same verdict on every permutation of the table: a choice valid for one arrival order of the
table is valid for every other. The tracker model has no shard count or schedule, and no theorem carries
`C05_query_perm` to `validChoice`; nothing is stated about a unique optimum or about the records.
The optimum clause needs `bestOf = best` for tables of every size (`AssignCert.bestOf_eq_best`).
-/
namespace SimVerif.C05
open SimVerif.Tracker SimVerif.AssignX List

theorem C05_bestOf_perm (s₁ s₂ : List AssignX.Entry) (h : s₁ ~ s₂) (hnd : PairsNodup s₁) (thr : Int) :
    bestOf s₁ thr = bestOf s₂ thr := by
  rw [AssignCert.bestOf_eq_best, AssignCert.bestOf_eq_best]
  exact C05_best_perm s₁ s₂ h hnd thr

theorem pairsNodup_esOf (t : List Tracker.Entry) (hnd : (t.map (fun x => (x.det, x.tid))).Nodup) :
    PairsNodup (esOf t) := by
  have := hnd.map (f := fun p : Nat × Nat => (p.1 + 1, p.2)) fun a b hab => by
    simp only [Prod.mk.injEq, Nat.add_right_cancel_iff] at hab
    exact Prod.ext hab.1 hab.2
  rw [map_map] at this
  unfold PairsNodup esOf
  rw [map_map]
  exact this

theorem C05_validChoice_perm (cfg : Cfg) (st : St) (scene e n : Nat) (t₁ t₂ : List Tracker.Entry)
    (h : t₁ ~ t₂) (hnd : (t₁.map (fun x => (x.det, x.tid))).Nodup) (picks : List Pick) :
    validChoice cfg st scene e n t₁ picks = validChoice cfg st scene e n t₂ picks := by
  have hes : esOf t₁ ~ esOf t₂ := h.map _
  have hpn := pairsNodup_esOf t₁ hnd
  rw [Bool.eq_iff_iff, validChoice_iff, validChoice_iff, ← C05_bestOf_perm _ _ hes hpn,
    ← objective_fn_perm _ _ hes hpn cfg.thr (fun q => (picks.map contOf).getD (q - 1) none)]
  simp only [h.mem_iff]

end SimVerif.C05
