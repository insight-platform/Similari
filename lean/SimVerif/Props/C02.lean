import SimVerif.Model.SortMetric
import SimVerif.Lemmas.Assign
import SimVerif.Lemmas.Tracker
/-!
# C02 — positional association is gated and a maximum-weight one-to-one assignment

Models: `SimVerif.SortMetric` (the gate), `SimVerif.Assign` (the code's cost matrix and every
optimal solution of it), `SimVerif.AssignX` (enumeration of all one-to-one partial assignments),
`SimVerif.Tracker.validChoice`. `C02_decode`, `C02_optimal` speak of the solver's matrix (`Assign.IsOpt` over a
`Fin`-indexed `W`), `C02_tracker` of what the tracker model demands of a choice (`AssignX.bestOf` over the table's
entries); no theorem links the two: that an optimal solution of the matrix decodes to picks satisfying
`validChoice` is not stated.
-/
namespace SimVerif.C02
open SimVerif.Geom SimVerif.SortMetric SimVerif.Kalman

theorem confOf_eq_max {α : Type} [LinearOrder α] (minconf conf : α) : confOf minconf conf = max conf minconf := by
  unfold confOf; split
  · rename_i h; exact (max_eq_right h.le).symm
  · rename_i h; exact (max_eq_left (not_lt.mp h)).symm

section Gate
variable {α : Type} [Field α] [LinearOrder α] [IsStrictOrderedRing α]

/-- **IoU gate**: a pair gets a positional weight `w` exactly when it is not too far, the boxes
overlap, `w = IoU · max(conf, min_conf)` and `w ≥ threshold`. -/
theorem C02_gate_iou (thr minconf : α) (cb tb : UBox α) (cc sc ct st w : α) :
    metricIoU thr minconf cb tb cc sc ct st = some (some w) ↔
      tooFar cb tb = false ∧ ∃ i, iou cb tb cc sc ct st = some i ∧
        w = i * max cb.conf minconf ∧ thr ≤ w := by
  unfold metricIoU
  cases htf : tooFar cb tb
  · simp only [Bool.false_eq_true, if_false, Option.some.injEq, true_and, Option.bind_eq_some_iff, confOf_eq_max]
    refine exists_congr fun i => and_congr_right fun _ => ?_
    rw [Option.ite_none_right_eq_some, Option.some.injEq]
    exact ⟨fun ⟨h, e⟩ => ⟨e.symm, e ▸ h⟩, fun ⟨e, h⟩ => ⟨e ▸ h, e.symm⟩⟩
  · simp

/-- **Mahalanobis gate**: with `0 < min_conf`, `conf ≤ 1`, `min_conf ≤ 1` and `upper − gate ≥ 1` the
weight reaches the voting threshold 1 exactly when the pair is not too far and the squared distance
is within the gate. `gate` and `upper` are free: no theorem puts the source's constants there or discharges
`upper − gate ≥ 1` for them. -/
theorem C02_gate_maha (gate upper minconf : α) (cb tb : UBox α) (d : α)
    (hmc : 0 < minconf) (hmc1 : minconf ≤ 1) (hc1 : cb.conf ≤ 1) (hgap : 1 ≤ upper - gate) :
    (∃ w, metricMaha gate upper minconf cb tb d = some (some w) ∧ 1 ≤ w) ↔ tooFar cb tb = false ∧ d ≤ gate := by
  have hcpos : 0 < confOf minconf cb.conf := confOf_eq_max minconf cb.conf ▸ lt_max_of_lt_right hmc
  have hc1' : confOf minconf cb.conf ≤ 1 := confOf_eq_max minconf cb.conf ▸ max_le hc1 hmc1
  unfold metricMaha
  cases htf : tooFar cb tb
  · simp only [Bool.false_eq_true, if_false, Option.some.injEq, exists_eq_left', true_and]
    unfold costInverted
    by_cases hg : gate < d
    · rw [if_pos hg, zero_div]
      exact ⟨fun h => absurd h (not_le.mpr zero_lt_one), fun h => absurd h (not_le.mpr hg)⟩
    · rw [if_neg hg, le_div_iff₀ hcpos, one_mul]
      -- conf ≤ 1 ≤ upper − gate ≤ upper − d
      exact ⟨fun _ => not_lt.mp hg, fun hle => hc1'.trans (hgap.trans (sub_le_sub_left hle upper))⟩
  · rw [if_pos rfl]
    constructor
    · rintro ⟨_, h, _⟩; cases h
    · rintro ⟨h, _⟩; cases h

end Gate

/-- **Every optimal solution of the code's cost matrix decodes correctly** (`thr > 0`): each row is on
its own column or on a track column of weight at least the threshold — never on another row's own
column, never on a track below the threshold. -/
theorem C02_decode {c t : ℕ} {thr : ℤ} {W : Fin c → Fin t → ℤ} {σ : Fin c → Assign.Col c t}
    (hthr : 0 < thr) (h : Assign.IsOpt thr W σ) (i : Fin c) : Assign.good thr W i (σ i) :=
  Assign.decode_ok hthr h i

/-- **…and the decoded map is one-to-one, gated, and of maximum total weight** — unmatched
detections counting the threshold — **among all one-to-one partial assignments**, not merely a
greedy or first-come choice. -/
theorem C02_optimal {c t : ℕ} {thr : ℤ} {W : Fin c → Fin t → ℤ} {σ : Fin c → Assign.Col c t}
    (hthr : 0 < thr) (h : Assign.IsOpt thr W σ) :
    Assign.InjOnSome (Assign.decode σ) ∧ (∀ i k, Assign.decode σ i = some k → thr ≤ W i k) ∧
    (∀ m : Fin c → Option (Fin t), Assign.InjOnSome m → Assign.obj thr W m ≤ Assign.obj thr W (Assign.decode σ)) :=
  Assign.decode_optimal hthr h

open SimVerif.Tracker in
/-- **Tracker level**: a valid choice continues a track only through a table entry for that very
(detection, track) pair whose weight reaches the threshold; no track is continued twice; and the
choice attains the optimum over the call's table. -/
theorem C02_tracker (cfg : Cfg) (st : St) (scene e n : Nat) (table : List Tracker.Entry) (picks : List Pick)
    (h : validChoice cfg st scene e n table picks = true) :
    ((picks.map contOf).filterMap id).Nodup ∧
    (∀ i tid, (picks.map contOf)[i]? = some (some tid) →
        ∃ x ∈ table, x.det = i ∧ x.tid = tid ∧ cfg.thr ≤ x.w) ∧
    (let es : List AssignX.Entry := table.map (fun x => { q := x.det + 1, t := x.tid, w := x.w })
     AssignX.objective es cfg.thr (AssignX.queries es) ((AssignX.queries es).map (fun q => (picks.map contOf).getD (q - 1) none))
       = AssignX.bestOf es cfg.thr) := by
  obtain ⟨_, _, hgate, hnd, hopt⟩ := (validChoice_iff cfg st scene e n table picks).mp h
  exact ⟨hnd, hgate, hopt⟩

open SimVerif.AssignX in
/-- detection 1 prefers track 101 (0.9) but must yield it: 1→102, 2→101 totals 1.5 against
greedy's 0.9 + threshold 0.3 = 1.2 -/
example :
    let s : List Entry := [⟨1, 101, 900000⟩, ⟨1, 102, 800000⟩, ⟨2, 101, 700000⟩]
    best s 300000 = 1500000 ∧ objective s 300000 (queries s) [some 101, none] = 1200000 ∧
    optimal s 300000 = [[some 102, some 101]] := by decide +kernel

end SimVerif.C02
