import SimVerif.Lemmas.Store
import Mathlib.Data.List.Perm.Basic
import Mathlib.Algebra.BigOperators.Group.List.Basic
/-!
# C10 — distance queries are exact and schedule independent

Model: `SimVerif.Store.{distPair, queryOne, foreignDistances, ownedDistances}`. The sharded,
threaded execution is modelled as: every worker answers every candidate with one chunk computed
over its own shard; the caller concatenates the chunks **in whatever order they arrive**.
All theorems are for every callback family, every shard count and every arrival order.
-/
namespace SimVerif.C10
open SimVerif.Track SimVerif.Store List

variable {TA M OA U Q E : Type}

/-- what one stored track contributes to one candidate's query: ok results, and error entries (`errPart`) -/
def okPart (cb : Cb TA M OA U Q E) (cand : Track TA M OA) (cls : Nat) (ob : Bool) (other : Track TA M OA) : List DistOk :=
  match distPair cb cand other cls ob with
  | some (.ok d) => d
  | _ => []

def errPart (cb : Cb TA M OA U Q E) (cand : Track TA M OA) (cls : Nat) (ob : Bool) (other : Track TA M OA) : Nat :=
  match distPair cb cand other cls ob with
  | some (.error _) => 1
  | _ => 0

theorem queryOne_eq (cb : Cb TA M OA U Q E) (ts : List (Track TA M OA)) (cand : Track TA M OA) (cls : Nat) (ob : Bool) :
    queryOne cb ts cand cls ob = (ts.flatMap (okPart cb cand cls ob), (ts.map (errPart cb cand cls ob)).sum) := by
  -- both components track by track: a track answers nothing, an ok list, or one error
  unfold queryOne
  dsimp only
  rw [filterMap_eq_flatMap_toList, flatMap_assoc, filter_flatMap, length_flatMap]
  refine Prod.ext (flatMap_congr fun t _ => ?_) (congrArg List.sum (map_congr_left fun t _ => ?_))
  · unfold okPart; rcases distPair cb cand t cls ob with _ | _ | _ <;> simp
  · unfold errPart; rcases distPair cb cand t cls ob with _ | _ | _ <;> rfl

/-- **Exactness.** A result belongs to a candidate's answer iff it is a postprocessed distance of
some stored track with a different id that is compatible with the candidate (and Ready when only
ready tracks are requested); never the candidate itself; incompatible tracks are dropped silently.
Membership in the ok results only: multiplicities and the error count (`.2`) are not part of it. -/
theorem C10_spec (cb : Cb TA M OA U Q E) (ts : List (Track TA M OA)) (cand : Track TA M OA) (cls : Nat) (ob : Bool)
    (d : DistOk) :
    d ∈ (queryOne cb ts cand cls ob).1 ↔
      ∃ other ∈ ts, other.id ≠ cand.id ∧ (ob = true → status cb other = .ok .ready) ∧
        ∃ ds, distances cb cand other cls = .ok ds ∧ d ∈ cb.postprocess cand.metric ds := by
  rw [queryOne_eq]
  simp only [mem_flatMap, okPart, ← and_assoc (a := _ ≠ _)]
  refine exists_congr fun other => and_congr_right fun _ => ?_
  by_cases h : other.id ≠ cand.id ∧ (ob = true → status cb other = .ok .ready)
  · rw [distPair_of_asked cb cand other cls ob h.1 h.2, and_iff_right h]
    rcases distances cb cand other cls with e | ds
    · cases e <;> simp
    · simp
  · rw [distPair_of_not_asked cb cand other cls ob h]
    simp [h]

theorem foreign_eq (cb : Cb TA M OA U Q E) (s : Store TA M OA) (cands : List (Track TA M OA)) (cls : Nat) (ob : Bool) :
    foreignDistances cb s cands cls ob =
      (cands.flatMap (fun c => (Store.all s).flatMap (okPart cb c cls ob)),
       (cands.map (fun c => ((Store.all s).map (errPart cb c cls ob)).sum)).sum) := by
  unfold foreignDistances
  simp only [queryOne_eq]
  rw [ListFacts.foldl_prod (fun (a : List DistOk) c => a ++ (Store.all s).flatMap (okPart cb c cls ob))
      (fun (n : Nat) c => n + ((Store.all s).map (errPart cb c cls ob)).sum),
    ListFacts.foldl_append_flatMap _ _ (fun _ _ => rfl), nil_append, ← foldl_map, ← sum_eq_foldl]

/-- the chunk a worker sends for candidate `c`: computed over its own shard `k` only -/
def chunk (cb : Cb TA M OA U Q E) (s : Store TA M OA) (cls : Nat) (ob : Bool) (c : Track TA M OA) (k : Nat) :
    List DistOk × Nat :=
  queryOne cb ((getShard s k).map (·.2)) c cls ob

/-- what the caller collects when the chunks arrive in the order `arr` (pairs candidate × shard) -/
def collect (cb : Cb TA M OA U Q E) (s : Store TA M OA) (cls : Nat) (ob : Bool) (arr : List (Track TA M OA × Nat)) :
    List DistOk × Nat :=
  (arr.flatMap (fun p => (chunk cb s cls ob p.1 p.2).1), (arr.map (fun p => (chunk cb s cls ob p.1 p.2).2)).sum)

theorem sum_map_flatMap {α β : Type} (l : List α) (f : α → List β) (g : β → Nat) :
    ((l.flatMap f).map g).sum = (l.map (fun a => ((f a).map g).sum)).sum := by
  simp only [flatMap_def, map_flatten, sum_flatten, map_map, Function.comp_def]

/-- **Schedule independence.** Whatever the number of shards and whatever the order in which the
workers' chunks arrive (each chunk exactly once), the collected results are a permutation of the
sequential specification and the error counts agree. -/
theorem C10_schedule_independent (cb : Cb TA M OA U Q E) (s : Store TA M OA) (h : Shape s)
    (cands : List (Track TA M OA)) (cls : Nat) (ob : Bool) (arr : List (Track TA M OA × Nat))
    (harr : arr ~ cands.flatMap (fun c => (List.range s.n).map (fun k => (c, k)))) :
    (collect cb s cls ob arr).1 ~ (foreignDistances cb s cands cls ob).1 ∧
    (collect cb s cls ob arr).2 = (foreignDistances cb s cands cls ob).2 := by
  rw [foreign_eq, all_eq_range s h]
  simp only [collect, chunk, queryOne_eq]
  constructor
  · refine (Perm.flatMap_right _ harr).trans (Perm.of_eq ?_)
    rw [flatMap_assoc]
    refine flatMap_congr fun c _ => ?_
    rw [flatMap_assoc, flatMap_map]
  · rw [(harr.map _).sum_eq, sum_map_flatMap]
    congr 1
    refine map_congr_left fun c _ => ?_
    rw [sum_map_flatMap, map_map]
    rfl

theorem C10_shard_count_independent (cb : Cb TA M OA U Q E) (s₁ s₂ : Store TA M OA) (hall : Store.all s₁ ~ Store.all s₂)
    (cands : List (Track TA M OA)) (cls : Nat) (ob : Bool) :
    (foreignDistances cb s₁ cands cls ob).1 ~ (foreignDistances cb s₂ cands cls ob).1 ∧
    (foreignDistances cb s₁ cands cls ob).2 = (foreignDistances cb s₂ cands cls ob).2 := by
  rw [foreign_eq, foreign_eq]
  constructor
  · apply Perm.flatMap_left
    intro c _
    exact Perm.flatMap_right _ hall
  · simp only
    congr 1
    apply map_congr_left
    intro c _
    exact (hall.map _).sum_eq

/-- Owned queries: the candidates are the stored tracks with the requested ids, each compared with
every other stored track — the other candidates included — on the **unchanged** store. -/
theorem C10_owned (cb : Cb TA M OA U Q E) (s : Store TA M OA) (ids : List Nat) (cls : Nat) (ob : Bool) :
    ownedDistances cb s ids cls ob = foreignDistances cb s (ids.filterMap (find s)) cls ob := rfl

/-! ### non-vacuity: two stored candidates in one shard are compared with one another -/
private def cbx : Cb Nat Nat Nat Unit Unit Unit where
  apply _ a := .ok a
  mergeA a _ := .ok a
  optimize m _ _ a obs _ _ := .ok (m, a, obs)
  compatible _ _ := true
  baked _ _ := .ok .ready
  metric _ _ x _ y := some (some ((x : Int) - y), none)
  postprocess _ v := v
  lookup _ _ _ _ := true

private def t1 : Track Nat Nat Nat := { id := 1, attrs := 0, obs := [(0, [5])], metric := 0, hist := [1] }
private def t2 : Track Nat Nat Nat := { id := 2, attrs := 0, obs := [(0, [7])], metric := 0, hist := [2] }
private def st : Store Nat Nat Nat := put (put (empty 1 0 0) 1 t1) 2 t2

example : ownedDistances cbx st [1, 2] 0 false =
    ([⟨1, 2, some (-2), none⟩, ⟨2, 1, some 2, none⟩], 0) := by decide +kernel

end SimVerif.C10
