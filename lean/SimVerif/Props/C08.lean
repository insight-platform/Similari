import SimVerif.Lemmas.Geom
import Mathlib.Analysis.Real.Sqrt
import Mathlib.Tactic.Ring
import Mathlib.Tactic.Linarith
/-!
# C08 — oriented-box intersection and IoU; the distance pre-filter is sound

Part A: the closed-form axis-aligned laws and the too-far pre-filter; part B, `C08b`: rigid motions, identical boxes;
part C, `C08c`: clip soundness. `C08_full` of DESIGN §7 (the reported area is the measure of the set intersection for
rotated pairs) is not stated in Lean: it is decided by comparison with an exact rational reference.
-/
namespace SimVerif.C08
open SimVerif.Geom
variable {α : Type}

section Order
variable [Field α] [LinearOrder α]

def Pos (b : BBox α) : Prop := 0 < b.width ∧ 0 < b.height

def shift (dx dy : α) (b : BBox α) : BBox α := { b with left := b.left + dx, top := b.top + dy }

/-- overlap of `[a, a + w]` and `[b, b + v]`; negative: minus the gap -/
def ov (a w b v : α) : α := min (a + w) (b + v) - max a b

theorem aabbInter_eq (l r : BBox α) :
    aabbInter l r =
      if 0 < ov l.left l.width r.left r.width ∧ 0 < ov l.top l.height r.top r.height then
        ov l.left l.width r.left r.width * ov l.top l.height r.top r.height
      else 0 := by
  simp only [aabbInter, maxv_eq, minv_eq]
  rfl

theorem ov_comm (a w b v : α) : ov a w b v = ov b v a w := by rw [ov, ov, min_comm, max_comm]

theorem ov_self (a w : α) : ov a w a w = w := by rw [ov, min_self, max_self, add_sub_cancel_left]

theorem C08_aabb_symm (l r : BBox α) : aabbInter l r = aabbInter r l := by
  rw [aabbInter_eq, aabbInter_eq, ov_comm l.left, ov_comm l.top]

theorem C08_aabb_iou_symm (l r : BBox α) : aabbIou l r = aabbIou r l := by
  rw [aabbIou, aabbIou, C08_aabb_symm l r, add_comm (l.height * l.width)]

end Order

section OrderedRing
variable [CommRing α] [LinearOrder α] [IsStrictOrderedRing α]

/-- Cauchy–Schwarz, from Lagrange's identity -/
theorem dot_sq_le (ux uy vx vy : α) :
    (ux * vx + uy * vy) * (ux * vx + uy * vy) ≤ (ux * ux + uy * uy) * (vx * vx + vy * vy) := by
  rw [show (ux * ux + uy * uy) * (vx * vx + vy * vy) =
    (ux * vx + uy * vy) * (ux * vx + uy * vy) + (ux * vy - uy * vx) * (ux * vy - uy * vx) by ring]
  exact le_add_of_nonneg_right (mul_self_nonneg _)

/-- `u`, `v`: vectors from a common point to the two centres, `|u|² ≤ A`, `|v|² ≤ B`. The test `0 < e ∧ 4AB < e²`,
`e = |u − v|² − A − B`, fails: `e ≤ −2 u·v` and `(u·v)² ≤ |u|²|v|² ≤ AB`. -/
theorem discs_meet {A B ux uy vx vy : α} (hl : ux * ux + uy * uy ≤ A) (hr : vx * vx + vy * vy ≤ B)
    (he : 0 < (vx - ux) * (vx - ux) + (vy - uy) * (vy - uy) - A - B) :
    ((vx - ux) * (vx - ux) + (vy - uy) * (vy - uy) - A - B) * ((vx - ux) * (vx - ux) + (vy - uy) * (vy - uy) - A - B)
      ≤ 2 * 2 * A * B := by
  have hA : 0 ≤ A := (add_nonneg (mul_self_nonneg ux) (mul_self_nonneg uy)).trans hl
  have hV : 0 ≤ vx * vx + vy * vy := add_nonneg (mul_self_nonneg vx) (mul_self_nonneg vy)
  have het : (vx - ux) * (vx - ux) + (vy - uy) * (vy - uy) - A - B ≤ -(2 * (ux * vx + uy * vy)) := by
    linarith only [hl, hr]
  calc _ ≤ -(2 * (ux * vx + uy * vy)) * -(2 * (ux * vx + uy * vy)) := mul_self_le_mul_self he.le het
    _ = 2 * 2 * ((ux * vx + uy * vy) * (ux * vx + uy * vy)) := by rw [neg_mul_neg, mul_mul_mul_comm]
    _ ≤ 2 * 2 * (A * B) :=
      mul_le_mul_of_nonneg_left ((dot_sq_le ux uy vx vy).trans (mul_le_mul hl hr hV hA)) (mul_self_nonneg 2)
    _ = 2 * 2 * A * B := (mul_assoc _ _ _).symm

/-- `(a + b)² < D` is `2ab < e`, `e = D − a² − b²`, and `0 ≤ x < e` iff `0 < e ∧ x² < e²` -/
theorem sq_add_lt_iff {a b D : α} (ha : 0 ≤ a) (hb : 0 ≤ b) :
    0 < D - a * a - b * b ∧ 2 * 2 * (a * a) * (b * b) < (D - a * a - b * b) * (D - a * a - b * b) ↔
      (a + b) * (a + b) < D := by
  have hab : 0 ≤ 2 * (a * b) := mul_nonneg zero_le_two (mul_nonneg ha hb)
  rw [show (a + b) * (a + b) = 2 * (a * b) + b * b + a * a by ring, ← lt_sub_iff_add_lt, ← lt_sub_iff_add_lt,
    show 2 * 2 * (a * a) * (b * b) = 2 * (a * b) * (2 * (a * b)) by ring]
  exact ⟨fun ⟨he, h⟩ => (mul_self_lt_mul_self_iff hab he.le).mpr h,
    fun h => ⟨hab.trans_lt h, (mul_self_lt_mul_self_iff hab (hab.trans h.le)).mp h⟩⟩

end OrderedRing

variable [Field α] [LinearOrder α] [IsStrictOrderedRing α]

theorem ov_le_left (a w b v : α) : ov a w b v ≤ w :=
  (sub_le_sub (min_le_left _ _) (le_max_left _ _)).trans_eq (add_sub_cancel_left _ _)

theorem ov_le_right (a w b v : α) : ov a w b v ≤ v :=
  (sub_le_sub (min_le_right _ _) (le_max_right _ _)).trans_eq (add_sub_cancel_left _ _)

theorem ov_add (a w b v d : α) : ov (a + d) w (b + d) v = ov a w b v := by
  rw [ov, add_right_comm a, add_right_comm b, min_add_add_right, max_add_add_right, add_sub_add_right_eq_sub, ov]

theorem C08_aabb_nonneg (l r : BBox α) : 0 ≤ aabbInter l r := by
  rw [aabbInter_eq]
  split_ifs with h
  · exact (mul_pos h.1 h.2).le
  · exact le_rfl

theorem C08_aabb_le_area (l r : BBox α) (hl : Pos l) (hr : Pos r) :
    aabbInter l r ≤ l.width * l.height ∧ aabbInter l r ≤ r.width * r.height := by
  rw [aabbInter_eq]
  split_ifs with h
  · exact ⟨mul_le_mul (ov_le_left ..) (ov_le_left ..) h.2.le hl.1.le,
      mul_le_mul (ov_le_right ..) (ov_le_right ..) h.2.le hr.1.le⟩
  · exact ⟨(mul_pos hl.1 hl.2).le, (mul_pos hr.1 hr.2).le⟩

theorem C08_aabb_zero_iff (l r : BBox α) :
    aabbInter l r = 0 ↔
      ¬ (max l.left r.left < min (l.left + l.width) (r.left + r.width) ∧
         max l.top r.top < min (l.top + l.height) (r.top + r.height)) := by
  rw [aabbInter_eq]
  split_ifs with h
  · exact ⟨fun h0 => absurd h0 (mul_pos h.1 h.2).ne', fun hn => absurd ⟨sub_pos.mp h.1, sub_pos.mp h.2⟩ hn⟩
  · exact ⟨fun _ hc => h ⟨sub_pos.mpr hc.1, sub_pos.mpr hc.2⟩, fun _ => rfl⟩

theorem C08_aabb_identical (b : BBox α) (hb : Pos b) :
    aabbInter b b = b.width * b.height ∧ aabbIou b b = 1 := by
  have hi : aabbInter b b = b.width * b.height := by rw [aabbInter_eq, ov_self, ov_self, if_pos ⟨hb.1, hb.2⟩]
  refine ⟨hi, ?_⟩
  rw [aabbIou, hi, mul_comm b.height, add_sub_cancel_left]
  exact div_self (mul_pos hb.1 hb.2).ne'

theorem C08_aabb_iou_range (l r : BBox α) (hl : Pos l) (hr : Pos r) :
    0 ≤ aabbIou l r ∧ aabbIou l r ≤ 1 := by
  obtain ⟨h1, h2⟩ := C08_aabb_le_area l r hl hr
  have h0 := C08_aabb_nonneg l r
  have hA : 0 < l.width * l.height := mul_pos hl.1 hl.2
  -- the union is at least either area
  have hden : 0 < l.height * l.width + r.height * r.width - aabbInter l r := by linarith
  exact ⟨div_nonneg h0 hden.le, (div_le_one hden).mpr (by linarith)⟩

theorem C08_aabb_translate (l r : BBox α) (dx dy : α) :
    aabbInter (shift dx dy l) (shift dx dy r) = aabbInter l r := by
  rw [aabbInter_eq, aabbInter_eq]
  simp only [shift, ov_add]

theorem C08_rect_in_circle (u : UBox α) (c s x y : α) (hcs : c * c + s * s = 1)
    (hx : |x| ≤ u.aspect * u.height / two) (hy : |y| ≤ u.height / two) :
    let px := u.xc + (c * x - s * y)
    let py := u.yc + (s * x + c * y)
    (px - u.xc) * (px - u.xc) + (py - u.yc) * (py - u.yc) ≤ radiusSq u := by
  simp only [add_sub_cancel_left]
  rw [rot_normSq hcs, ← abs_mul_abs_self x, ← abs_mul_abs_self y]
  exact add_le_add (mul_self_le_mul_self (abs_nonneg x) hx) (mul_self_le_mul_self (abs_nonneg y) hy)

/-- a pair with a point in both bounding circles (any point of a rectangle is in its, `C08_rect_in_circle`) is not rejected -/
theorem C08_toofar_sound (l r : UBox α) (px py : α)
    (hl : (px - l.xc) * (px - l.xc) + (py - l.yc) * (py - l.yc) ≤ radiusSq l)
    (hr : (px - r.xc) * (px - r.xc) + (py - r.yc) * (py - r.yc) ≤ radiusSq r) :
    tooFar l r = false := by
  rw [tooFar, Bool.and_eq_false_iff, decide_eq_false_iff_not, decide_eq_false_iff_not, two_eq, ← imp_iff_not_or, not_lt]
  intro he
  have := discs_meet hl hr (by simpa only [sub_sub_sub_cancel_left] using he)
  simpa only [sub_sub_sub_cancel_left] using this

/-- over ℝ the decidable sqrt-free form is the code's test `x² + y² > (r₁ + r₂)²` with
`rᵢ = √(radiusSq ·)` -/
theorem C08_toofar_sqrtfree (l r : UBox ℝ) :
    tooFar l r = true ↔
      (l.xc - r.xc) * (l.xc - r.xc) + (l.yc - r.yc) * (l.yc - r.yc) >
        (Real.sqrt (radiusSq l) + Real.sqrt (radiusSq r)) * (Real.sqrt (radiusSq l) + Real.sqrt (radiusSq r)) := by
  have h := sq_add_lt_iff (Real.sqrt_nonneg (radiusSq l)) (Real.sqrt_nonneg (radiusSq r))
    (D := (l.xc - r.xc) * (l.xc - r.xc) + (l.yc - r.yc) * (l.yc - r.yc))
  rw [Real.mul_self_sqrt (radiusSq_nonneg l), Real.mul_self_sqrt (radiusSq_nonneg r)] at h
  rw [tooFar, Bool.and_eq_true, decide_eq_true_eq, decide_eq_true_eq, two_eq]
  exact h

end SimVerif.C08
