import SimVerif.Props.Ren
import SimVerif.Props.C01
import SimVerif.Lemmas.Numbering
/-!
# Whole histories up to renaming of track ids: scene isolation (C04) and batch refines simple (C06)
Model: `SimVerif.Tracker`; one step: `Props/Ren.lean`.
-/
namespace SimVerif.Hist
open SimVerif.Tracker SimVerif.Ren SimVerif.HistC06 List

/-- one `predict` call: scene, detections, the distance table of the call, the choice -/
structure Job where
  scene : Nat
  dets : List Det
  table : List Entry
  picks : List Pick

def Job.ren (ρ : Nat → Nat) (j : Job) : Job :=
  { j with table := j.table.map (renEntry ρ), picks := j.picks.map (renPick ρ) }

/-- a simple SORT tracker serving a sequence of calls; the answers, call by call -/
def runSimple (cfg : Cfg) : St → List Job → Option (St × List (List Rec))
  | st, [] => some (st, [])
  | st, j :: js =>
    match predict cfg st j.scene j.dets j.table j.picks with
    | none => none
    | some (st', r) =>
      match runSimple cfg st' js with
      | none => none
      | some (st'', rs) => some (st'', r :: rs)

/-- a batch SORT tracker serving a sequence of batches; per batch the answers in the order of its jobs -/
def runBatch (cfg : Cfg) : St → List (List Job) → Option (St × List (List (List Rec)))
  | st, [] => some (st, [])
  | st, b :: bs =>
    match predictBatch cfg st (b.map (fun j => (j.scene, j.dets, j.table, j.picks))) with
    | none => none
    | some (st', out) =>
      match runBatch cfg st' bs with
      | none => none
      | some (st'', outs) => some (st'', out.map (·.2) :: outs)

/-- the answers to the calls of scene `s` -/
def answersOf (s : Nat) : List Job → List (List Rec) → List (List Rec)
  | j :: js, r :: rs => if j.scene = s then r :: answersOf s js rs else answersOf s js rs
  | _, _ => []

theorem runSimple_cons_iff {cfg : Cfg} {st a : St} {j : Job} {js : List Job} {recs : List (List Rec)} :
    runSimple cfg st (j :: js) = some (a, recs) ↔
      ∃ st' r rs, predict cfg st j.scene j.dets j.table j.picks = some (st', r) ∧
        runSimple cfg st' js = some (a, rs) ∧ recs = r :: rs := by
  constructor
  · intro h
    rw [runSimple] at h
    split at h
    · cases h
    · rename_i st' r h1
      split at h
      · cases h
      · rename_i hr
        cases h
        exact ⟨st', r, _, h1, hr, rfl⟩
  · rintro ⟨st', r, rs, h1, hr, rfl⟩
    simp only [runSimple, h1, hr]

theorem runSimple_append {cfg : Cfg} {l₁ l₂ : List Job} {b b₁ b₂ : St} {r₁ r₂ : List (List Rec)}
    (h1 : runSimple cfg b l₁ = some (b₁, r₁)) (h2 : runSimple cfg b₁ l₂ = some (b₂, r₂)) :
    runSimple cfg b (l₁ ++ l₂) = some (b₂, r₁ ++ r₂) := by
  induction l₁ generalizing b r₁ with
  | nil => cases h1; exact h2
  | cons j js ih =>
    obtain ⟨b', r, rs, hp, hr, rfl⟩ := runSimple_cons_iff.mp h1
    exact runSimple_cons_iff.mpr ⟨b', r, _, hp, ih hr, rfl⟩

def scenesOf (bt : List Job) : List (Nat × List Det × List Entry × List Pick) :=
  bt.map (fun j => (j.scene, j.dets, j.table, j.picks))

theorem runBatch_cons_iff {cfg : Cfg} {a a'' : St} {bt : List Job} {bs : List (List Job)}
    {outs : List (List (List Rec))} :
    runBatch cfg a (bt :: bs) = some (a'', outs) ↔
      ∃ a' out outs', predictBatch cfg a (scenesOf bt) = some (a', out) ∧
        runBatch cfg a' bs = some (a'', outs') ∧ outs = out.map (·.2) :: outs' := by
  constructor
  · intro h
    rw [runBatch] at h
    split at h
    · cases h
    · rename_i a' out h1
      split at h
      · cases h
      · rename_i hr
        cases h
        exact ⟨a', out, _, h1, hr, rfl⟩
  · rintro ⟨a', out, outs', h1, hr, rfl⟩
    unfold scenesOf at h1
    simp only [runBatch, h1, hr]

def jobsFresh (js : List Job) : List Nat := js.flatMap (fun j => freshIds j.picks)

theorem jobsFresh_cons (j : Job) (js : List Job) : jobsFresh (j :: js) = freshIds j.picks ++ jobsFresh js := rfl

theorem jobsFresh_append (l₁ l₂ : List Job) : jobsFresh (l₁ ++ l₂) = jobsFresh l₁ ++ jobsFresh l₂ :=
  flatMap_append

theorem jobsFresh_filter_sublist (p : Job → Bool) (js : List Job) : (jobsFresh (js.filter p)).Sublist (jobsFresh js) := by
  induction js with
  | nil => exact Sublist.refl _
  | cons j js ih =>
    rw [filter_cons, jobsFresh_cons]
    split
    · exact (Sublist.refl _).append ih
    · exact ih.trans (sublist_append_right _ _)

theorem predict_freshIds (cfg : Cfg) (hb : cfg.batchIds = false) (st st' : St) (scene : Nat) (dets : List Det)
    (table : List Entry) (picks : List Pick) (recs : List Rec)
    (h : predict cfg st scene dets table picks = some (st', recs)) :
    freshIds picks = List.range' (st.nextId + 1) (freshIds picks).length :=
  awStep_nextId cfg st ▸ (freshIdsOk_simple_iff cfg hb _ 0 0 picks).mp
    (predictScene_parts h).2.1

theorem predict_nextId (cfg : Cfg) (hb : cfg.batchIds = false) (st st' : St) (scene : Nat) (dets : List Det)
    (table : List Entry) (picks : List Pick) (recs : List Rec)
    (h : predict cfg st scene dets table picks = some (st', recs)) :
    st'.nextId = st.nextId + (freshIds picks).length := by
  rw [predictScene_nextId h, awStep_nextId, hb]
  rfl

/-- the invariants a simple tracker keeps along a history: ids at most the counter, and unique -/
theorem predict_ids (cfg : Cfg) (hb : cfg.batchIds = false) (st st' : St) (hinv : C01.IdsBelow st)
    (hnd : (st.live.map (·.id)).Nodup) (scene : Nat) (dets : List Det) (table : List Entry) (picks : List Pick)
    (recs : List Rec) (h : predict cfg st scene dets table picks = some (st', recs)) :
    C01.IdsBelow st' ∧ (st'.live.map (·.id)).Nodup := by
  have hfr := predict_freshIds cfg hb st st' scene dets table picks recs h
  unfold predict at h
  have hinv1 : C01.IdsBelow (awStep cfg st) := hinv.awStep cfg
  refine ⟨(C01.C01_distinct_fresh cfg hb _ st' hinv1 scene dets table picks recs h).2.2, ?_⟩
  -- the new ids lie above the counter, the old ones at most at it
  rw [predictScene_liveIds h, freshIds_eq, nodup_append]
  refine ⟨awStep_nodup cfg st hnd, hfr ▸ nodup_range', forall_mem_map.mpr fun t ht y hy hxy => ?_⟩
  have h1 := hinv1.live t ht
  rw [awStep_nextId] at h1
  rw [hfr, mem_range'_1] at hy
  omega

theorem simple_fresh_ok (cfg : Cfg) (hb : cfg.batchIds = false) (st : St) (ρ : Nat → Nat) (picks : List Pick)
    (lo hi : Nat) (h : Numbered ρ st.nextId (freshIds picks)) :
    freshIdsOk cfg st lo hi (picks.map (renPick ρ)) = true := by
  refine (freshIdsOk_simple_iff cfg hb st lo hi _).mpr ?_
  show freshIds (picks.map (renPick ρ)) = List.range' (st.nextId + 1) (freshIds (picks.map (renPick ρ))).length
  rw [freshIds_ren, length_map]
  exact h

/-- One job of a selected scene, for both history theorems: A is a tracker of either kind (any `lo hi`), B a simple
tracker whose counter `ρ` continues on the job's fresh ids. -/
theorem job_sim (cA cB : Cfg) (hcs : cB.batchIds = false) (hsame : SameButIds cA cB) (ρ : Nat → Nat)
    (hρ : Function.Injective ρ) (sel : Nat → Bool) (a b : St) (hrel : Rel cA cB ρ sel a b) (hib : C01.IdsBelow b)
    (j : Job) (hs : sel j.scene = true) (lo hi : Nat) (a₁ : St) (r : List Rec)
    (h : predictScene cA a j.scene j.dets j.table j.picks lo hi = some (a₁, r))
    (hnd : (a₁.live.map (·.id)).Nodup) (hnum : Numbered ρ b.nextId (freshIds j.picks)) :
    ∃ b₁, predict cB b j.scene j.dets (j.table.map (renEntry ρ)) (j.picks.map (renPick ρ)) =
        some (b₁, r.map (renRec ρ)) ∧
      Rel cA cB ρ sel a₁ b₁ ∧ C01.IdsBelow b₁ ∧ b₁.nextId = b.nextId + (freshIds j.picks).length := by
  have hrel1 : Rel cA cB ρ sel a (awStep cB b) := hrel.awStepB
  have hib1 : C01.IdsBelow (awStep cB b) := hib.awStep cB
  have hnx : (awStep cB b).nextId = b.nextId := awStep_nextId cB b
  obtain ⟨b₁, hb₁, hrel2⟩ := scene_job_rename cA cB hsame ρ sel a (awStep cB b) hrel1 j.scene hs
    j.dets j.table j.picks lo hi 0 0 a₁ r h hnd
    (simple_fresh_ok cB hcs _ ρ j.picks 0 0 (by rw [← hnx] at hnum; exact hnum))
    (fun x _ y _ hxy => hρ hxy)
    (fun id hid t ht hte => by
       have h3 := (numbered_bounds ρ _ _ hnum id hid).1
       have h4 := hib1.live t ht
       omega)
  exact ⟨b₁, hb₁, hrel2, (predict_ids cB hcs b b₁ hib hrel.nodupB j.scene j.dets _ _ _ hb₁).1,
    by rw [predict_nextId cB hcs b b₁ j.scene j.dets _ _ _ hb₁, freshIds_ren, length_map]⟩

theorem runSimple_fresh (cfg : Cfg) (hb : cfg.batchIds = false) (js : List Job) (a₀ a : St) (recs : List (List Rec))
    (h : runSimple cfg a₀ js = some (a, recs)) :
    jobsFresh js = List.range' (a₀.nextId + 1) (jobsFresh js).length := by
  induction js generalizing a₀ recs with
  | nil => rfl
  | cons j js ih =>
    obtain ⟨a₁, r, rs, h1, h2, _⟩ := runSimple_cons_iff.mp h
    have hn := predict_nextId cfg hb a₀ a₁ j.scene j.dets j.table j.picks r h1
    have hfr := predict_freshIds cfg hb a₀ a₁ j.scene j.dets j.table j.picks r h1
    have := ih a₁ rs h2
    rw [hn, Nat.add_right_comm] at this
    rw [jobsFresh_cons, length_append, ← range'_append_1, ← hfr, ← this]

/-- the induction over the rest of the history: `a₀`, `b₀` are the states of the two trackers after a
prefix; `ρ` continues B's counter on the fresh ids scene `s` still gets in A -/
theorem runSimple_sim (cfg : Cfg) (hb : cfg.batchIds = false) (s : Nat) (ρ : Nat → Nat) (hρ : Function.Injective ρ)
    (js : List Job) (a₀ b₀ a : St) (recs : List (List Rec))
    (hrel : Rel cfg cfg ρ (fun x => x == s) a₀ b₀) (hia : C01.IdsBelow a₀) (hib : C01.IdsBelow b₀)
    (hnum : Numbered ρ b₀.nextId (jobsFresh (js.filter (fun j => j.scene == s))))
    (h : runSimple cfg a₀ js = some (a, recs)) :
    ∃ b, runSimple cfg b₀ ((js.filter (fun j => j.scene == s)).map (Job.ren ρ)) =
      some (b, (answersOf s js recs).map (List.map (renRec ρ))) := by
  induction js generalizing a₀ b₀ recs with
  | nil => cases h; exact ⟨b₀, rfl⟩
  | cons j js ih =>
    obtain ⟨a₁, r, rs, h1, h2, rfl⟩ := runSimple_cons_iff.mp h
    obtain ⟨hia', hnd'⟩ := predict_ids cfg hb a₀ a₁ hia hrel.nodupA j.scene j.dets j.table j.picks r h1
    have hrelA : Rel cfg cfg ρ (fun x => x == s) (awStep cfg a₀) b₀ := hrel.awStepA
    by_cases hj : j.scene = s
    · have hjb : (j.scene == s) = true := beq_iff_eq.mpr hj
      rw [filter_cons, if_pos hjb, jobsFresh_cons] at hnum
      obtain ⟨hn1, hn2⟩ := numbered_append ρ _ _ _ hnum
      obtain ⟨b₁, hB, hrel', hib', hnb⟩ := job_sim cfg cfg hb (sameButIds_refl cfg) ρ hρ _ _ b₀ hrelA hib j hjb
        0 0 a₁ r h1 hnd' hn1
      obtain ⟨b, hb2⟩ := ih a₁ b₁ rs hrel' hia' hib' (hnb ▸ hn2) h2
      refine ⟨b, ?_⟩
      rw [filter_cons, if_pos hjb, map_cons, answersOf, if_pos hj, map_cons]
      exact runSimple_cons_iff.mpr ⟨b₁, _, _, hB, hb2, rfl⟩
    · have hjb : (j.scene == s) = false := beq_eq_false_iff_ne.mpr hj
      rw [filter_cons, if_neg (Bool.eq_false_iff.mp hjb)] at hnum ⊢
      rw [answersOf, if_neg hj]
      exact ih a₁ b₀ rs (other_scene_job cfg cfg ρ _ _ b₀ hrelA j.scene hjb j.dets j.table j.picks 0 0 a₁ r h1 hnd'
        (fun x _ y _ hxy => hρ hxy)) hia' hib hnum h2

/-- **C04 — scene isolation over whole histories.** Whatever a simple SORT tracker answers to the
calls of scene `s` in an interleaved history (from the empty tracker), a tracker that is given only
the calls of scene `s` answers too, up to a renaming `ρ` of track ids that is injective on the ids
the history uses: the grouping of the scene's detections into tracks, and the epochs, lengths,
boxes (tokens) and custom ids reported, are the same. -/
theorem C04_projection (cfg : Cfg) (hb : cfg.batchIds = false) (s : Nat) (jobs : List Job)
    (a : St) (recs : List (List Rec)) (h : runSimple cfg {} jobs = some (a, recs)) :
    ∃ (ρ : Nat → Nat) (b : St),
      (∀ x y, x ≤ a.nextId → y ≤ a.nextId → ρ x = ρ y → x = y) ∧
      runSimple cfg {} ((jobs.filter (fun j => j.scene == s)).map (Job.ren ρ)) =
        some (b, (answersOf s jobs recs).map (List.map (renRec ρ))) := by
  have hF : (jobsFresh (jobs.filter (fun j => j.scene == s))).Nodup := by
    refine (jobsFresh_filter_sublist _ jobs).nodup ?_
    rw [runSimple_fresh cfg hb jobs {} a recs h]
    exact nodup_range'
  obtain ⟨b, hb'⟩ := runSimple_sim cfg hb s _ (numbering_inj _) jobs {} {} a recs
    (rel_empty cfg cfg _ _) C01.IdsBelow.empty C01.IdsBelow.empty (numbering_numbered _ hF) h
  exact ⟨_, b, fun x y _ _ hxy => numbering_inj _ hxy, hb'⟩

theorem batchScenes_sim (cb cs : Cfg) (hcb : cb.batchIds = true) (hcs : cs.batchIds = false) (hsame : SameButIds cb cs)
    (ρ : Nat → Nat) (hρ : Function.Injective ρ) (lo hi : Nat) (js : List Job) (a b a' : St)
    (out : List (Nat × List Rec))
    (hrel : Rel cb cs ρ (fun _ => true) a b) (hib : C01.IdsBelow b)
    (hnum : Numbered ρ b.nextId (jobsFresh js))
    (h : batchScenes cb lo hi (scenesOf js) a = some (a', out)) :
    ∃ b', runSimple cs b (js.map (Job.ren ρ)) = some (b', (out.map (·.2)).map (List.map (renRec ρ))) ∧
      Rel cb cs ρ (fun _ => true) a' b' ∧ C01.IdsBelow b' ∧ b'.nextId = b.nextId + (jobsFresh js).length := by
  induction js generalizing a b out with
  | nil => cases h; exact ⟨b, rfl, hrel, hib, rfl⟩
  | cons j js ih =>
    obtain ⟨a₁, r, out', h1, h2, rfl⟩ := batchScenes_cons cb lo hi _ _ a a' out h
    obtain ⟨hn1, hn2⟩ := numbered_append ρ _ _ _ hnum
    obtain ⟨b₁, hb₁, hrel₁, hib₁, hnx₁⟩ := job_sim cb cs hcs hsame ρ hρ _ a b hrel hib j rfl lo hi a₁ r h1
      (predictScene_nodup hcb hrel.nodupA h1) hn1
    obtain ⟨b₂, hb₂, hrel₂, hib₂, hnx₂⟩ := ih a₁ b₁ out' hrel₁ hib₁ (hnx₁ ▸ hn2) h2
    exact ⟨b₂, runSimple_cons_iff.mpr ⟨b₁, _, _, hb₁, hb₂, rfl⟩, hrel₂, hib₂,
      by rw [hnx₂, hnx₁, jobsFresh_cons, length_append, Nat.add_assoc]⟩

theorem runBatch_sim (cb cs : Cfg) (hcb : cb.batchIds = true) (hcs : cs.batchIds = false) (hsame : SameButIds cb cs)
    (ρ : Nat → Nat) (hρ : Function.Injective ρ) (batches : List (List Job)) (a b a' : St)
    (outs : List (List (List Rec)))
    (hrel : Rel cb cs ρ (fun _ => true) a b) (hib : C01.IdsBelow b)
    (hnum : Numbered ρ b.nextId (jobsFresh batches.flatten))
    (h : runBatch cb a batches = some (a', outs)) :
    ∃ b', runSimple cs b (batches.flatten.map (Job.ren ρ)) = some (b', outs.flatten.map (List.map (renRec ρ))) := by
  induction batches generalizing a b outs with
  | nil => cases h; exact ⟨b, rfl⟩
  | cons bt bs ih =>
    obtain ⟨a₁, out, outs', hp, hr, rfl⟩ := runBatch_cons_iff.mp h
    rw [flatten_cons, jobsFresh_append] at hnum
    obtain ⟨hn1, hn2⟩ := numbered_append ρ _ _ _ hnum
    obtain ⟨hi, s, _, hbs, rfl⟩ := predictBatch_some_le cb a a₁ _ out hp
    obtain ⟨b₁, hb₁, hr₁, hib₁, hnx₁⟩ := batchScenes_sim cb cs hcb hcs hsame ρ hρ _ hi bt _ b s out
      hrel.awStepA hib hn1 hbs
    obtain ⟨b₂, hb₂⟩ := ih { s with nextId := hi } b₁ outs' (hr₁.congr rfl rfl rfl rfl)
      hib₁ (hnx₁ ▸ hn2) hr
    exact ⟨b₂, by rw [flatten_cons, map_append, flatten_cons, map_append]; exact runSimple_append hb₁ hb₂⟩

/-- a batch's fresh ids come from its range `(lo, hi]`, and the store's ids stay distinct with them -/
theorem batchScenes_fresh (cb : Cfg) (hcb : cb.batchIds = true) (lo hi : Nat) (js : List Job) (a a' : St)
    (out : List (Nat × List Rec)) (hnd : (a.live.map (·.id)).Nodup)
    (h : batchScenes cb lo hi (scenesOf js) a = some (a', out)) :
    (a'.live.map (·.id)).Nodup ∧ (∀ id ∈ jobsFresh js, lo < id ∧ id ≤ hi) ∧
      a'.live.map (·.id) = a.live.map (·.id) ++ jobsFresh js := by
  induction js generalizing a out with
  | nil => cases h; exact ⟨hnd, fun id hid => absurd hid not_mem_nil, (append_nil _).symm⟩
  | cons j js ih =>
    obtain ⟨a1, r, out', h1, h2, _⟩ := batchScenes_cons cb lo hi _ _ a a' out h
    replace h1 : predictScene cb a j.scene j.dets j.table j.picks lo hi = some (a1, r) := h1
    obtain ⟨g1, g2, g3⟩ := ih a1 out' (predictScene_nodup hcb hnd h1) h2
    refine ⟨g1, forall_mem_append.mpr ⟨fun id hid => ?_, g2⟩, by rw [g3, predictScene_liveIds h1, append_assoc]; rfl⟩
    obtain ⟨k1, k2, _⟩ := (predictScene_fresh hcb h1).1 id hid
    exact ⟨k1, k2⟩

/-- each batch's fresh ids lie in `(nextId, hi]`, and the next batch starts at `hi` -/
theorem runBatch_fresh (cb : Cfg) (hcb : cb.batchIds = true) (batches : List (List Job)) (a a' : St)
    (outs : List (List (List Rec))) (hnd : (a.live.map (·.id)).Nodup) (hlive : ∀ x ∈ a.live.map (·.id), x ≤ a.nextId)
    (h : runBatch cb a batches = some (a', outs)) :
    (jobsFresh batches.flatten).Nodup ∧ ∀ id ∈ jobsFresh batches.flatten, a.nextId < id := by
  induction batches generalizing a outs with
  | nil => exact ⟨nodup_nil, fun id hid => absurd hid not_mem_nil⟩
  | cons bt bs ih =>
    obtain ⟨a1, out, outs', hp, hr, _⟩ := runBatch_cons_iff.mp h
    obtain ⟨hi, s, hle, hbs, rfl⟩ := predictBatch_some_le cb a a1 _ out hp
    obtain ⟨f1, f2, f3⟩ := batchScenes_fresh cb hcb _ hi bt _ s out (awStep_nodup cb a hnd) hbs
    rw [awStep_nextId] at hle f2
    have hlive1 : ∀ x ∈ s.live.map (·.id), x ≤ hi := f3 ▸ forall_mem_append.mpr
      ⟨fun x hx => (hlive x (((awStep_live_sublist cb a).map _).subset hx)).trans hle, fun x hx => (f2 x hx).2⟩
    obtain ⟨g1, g2⟩ := ih { s with nextId := hi } outs' f1 hlive1 hr
    rw [flatten_cons, jobsFresh_append]
    refine ⟨nodup_append.mpr ⟨(f3 ▸ f1).of_append_right, g1, ?_⟩,
      forall_mem_append.mpr ⟨fun id hid => (f2 id hid).1, fun id hid => Nat.lt_of_le_of_lt hle (g2 id hid)⟩⟩
    rintro x hx _ hy rfl
    exact absurd (f2 x hx).2 (Nat.not_le.mpr (g2 x hy))

/-- **C06 — a batch tracker refines the simple tracker.** Whatever a batch SORT tracker answers to a
sequence of batches (each with distinct scenes), the simple tracker configured alike answers to the
same calls served one by one, up to a renaming `ρ` of track ids that is injective on the ids the
batch tracker issued. -/
theorem C06_refines_simple (cb cs : Cfg) (hcb : cb.batchIds = true) (hcs : cs.batchIds = false)
    (hsame : SameButIds cb cs) (batches : List (List Job))
    (hd : ∀ b ∈ batches, (b.map (·.scene)).Nodup)
    (a : St) (outs : List (List (List Rec))) (h : runBatch cb {} batches = some (a, outs)) :
    ∃ (ρ : Nat → Nat) (b : St),
      (∀ x y, x ≤ a.nextId → y ≤ a.nextId → ρ x = ρ y → x = y) ∧
      runSimple cs {} (batches.flatten.map (Job.ren ρ)) =
        some (b, outs.flatten.map (List.map (renRec ρ))) := by
  -- `hd` is not used: the model's `predictBatch` serves a batch that repeats a scene like any other
  have _ := hd
  obtain ⟨hF, _⟩ := runBatch_fresh cb hcb batches {} a outs nodup_nil (fun x hx => absurd hx not_mem_nil) h
  obtain ⟨b, hb⟩ := runBatch_sim cb cs hcb hcs hsame _ (numbering_inj _) batches {} {} a outs (rel_empty cb cs _ _)
    C01.IdsBelow.empty (numbering_numbered _ hF) h
  exact ⟨_, b, fun x y _ _ hxy => numbering_inj _ hxy, hb⟩

end SimVerif.Hist
