import SimVerif.Props.C14
import SimVerif.Tie.Nms
/-!
# C14 at source level

The theorems of `Props/C14.lean` restated for `SimVerif.Gen.L.nms` (`nms()` of src/utils/nms.rs, regenerated on every run;
equal to the model's by `Tie/Nms.lean`), with the coverage predicate the source computes, `intersection(a, b) / area(b) >
nms_threshold`, for every `intersection` / `area`, every threshold and every input list.
-/
namespace SimVerif.C14
open SimVerif.Nms SimVerif.Tie SimVerif.Gen.L
variable {α : Type} (inter : NBox α → NBox α → Rat) (area : NBox α → Rat) (thr : Rat) (sthr : Option Rat) (l : List (Box α))

/-- the detections as the source receives them -/
def dets : List (NBox α × Option Rat) := l.map (fun b => (toN b, b.score))

/-- every returned box is an input box that passed the score / validity filter, and they come in decreasing rank order -/
theorem C14_source_subset_sorted :
    ∃ kept : List (Box α), Gen.L.nms inter area (dets l) thr sthr = kept.map toN ∧
      kept.Sublist (ranked sthr l) ∧ (∀ b ∈ kept, b ∈ l ∧ passes sthr b = true) ∧ kept.Pairwise (fun a b => rank b ≤ rank a) := by
  refine ⟨Nms.nms (covOf inter area thr) sthr l, tie_nms inter area thr sthr l, ?_⟩
  exact C14_subset_sorted (covOf inter area thr) sthr l

/-- the top-ranked candidate is always returned first -/
theorem C14_source_top_kept :
    (Gen.L.nms inter area (dets l) thr sthr).head? = ((ranked sthr l).head?).map toN := by
  unfold dets
  rw [tie_nms, List.head?_map, C14_top_kept]

/-- no returned box has more than the threshold fraction of its area covered by a returned box that precedes it -/
theorem C14_source_independent :
    ∃ kept : List (Box α), Gen.L.nms inter area (dets l) thr sthr = kept.map toN ∧
      kept.Pairwise (fun a b => ¬ (inter (toN a) (toN b) / area (toN b) > thr)) := by
  refine ⟨Nms.nms (covOf inter area thr) sthr l, tie_nms inter area thr sthr l, ?_⟩
  have := C14_independent (covOf inter area thr) sthr l
  refine this.imp ?_
  intro a b h
  simpa [covOf] using h

/-- every candidate whose value is not among the returned ones (as in `C14_maximal`: nothing about a dropped copy of a kept
value) is covered beyond the threshold by a returned box of at least its rank.
`hn` speaks of the model's `nms`: `toN` forgets the score, so "not returned" cannot be said of `b` on the source's list, which by
`tie_nms` is the model's under `map toN`. -/
theorem C14_source_maximal (b : Box α) (hb : b ∈ ranked sthr l) (hn : b ∉ Nms.nms (covOf inter area thr) sthr l) :
    ∃ a, toN a ∈ Gen.L.nms inter area (dets l) thr sthr ∧ inter (toN a) (toN b) / area (toN b) > thr ∧ rank b ≤ rank a := by
  obtain ⟨a, ha, hc, hr⟩ := C14_maximal (covOf inter area thr) sthr l b hb hn
  refine ⟨a, ?_, by simpa [covOf] using hc, hr⟩
  unfold dets
  rw [tie_nms]
  exact List.mem_map_of_mem ha

end SimVerif.C14
