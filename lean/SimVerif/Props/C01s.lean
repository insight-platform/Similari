import SimVerif.Tie.Attr
import SimVerif.Tie.Record
/-!
# C01 / C13 at source level: the record echoes the detection

For `SortAttributes::update_history` and `From<&Track> for SortTrack` as generated from the source: after a detection has been
attached to a track, the record built from that track carries **that detection's observed box and the box predicted for it**
(the last entries of the bounded histories, whatever the history bound), and the track length grew by exactly one. Nothing is
stated here for `VisualAttributes::update_history`, the VisualSORT record or the wasted-track records.
-/
namespace SimVerif.C01
open SimVerif.Gen.L

theorem C01_source_echo_sort {β ι : Type} (H len : Nat) (obs pred : List β) (ob pb : β) (hlen : obs.length = pred.length)
    (id : Nat) (cu : ι) (e s : Nat) :
    let u := sort_update_history H len obs pred ob pb
    let r := sort_track_of id cu e s u.1 u.2.1 u.2.2
    r.observed = some ob ∧ r.predicted = some pb ∧ r.length = len + 1 ∧ r.id = id ∧ r.epoch = e ∧ r.scene = s ∧ r.custom = cu := by
  intro u r
  simp only [r, u, Tie.sort_update_history_eq H len obs pred ob pb hlen, sort_track_of]
  exact ⟨Tie.pushB_getLast obs ob H, Tie.pushB_getLast pred pb H, by trivial⟩

/-- C13's history bound (when a bound is set) for the generated `update_history` of `SortAttributes`, stated in this module,
where `Tie.Attr` is in reach: the observed history only; the predicted one, and the three of `VisualAttributes`, are bounded
by no theorem -/
theorem C13_source_history_bound {β : Type} (H len : Nat) (obs pred : List β) (ob pb : β) (hH : 0 < H) (hb : obs.length ≤ H) :
    (sort_update_history H len obs pred ob pb).2.1.length ≤ H := by
  rw [Tie.sort_update_history_observed]
  exact Tie.pushB_length_le obs ob H hH hb

end SimVerif.C01
