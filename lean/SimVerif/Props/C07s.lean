import SimVerif.Tie.KalmanMat
/-!
# C07 at source level

The generated filter steps with the matrices `new` builds (`Gen.K.box_motion_matrix DT`, `Gen.K.box_update_matrix`), on an
independent-coordinates state `(toMean cs, toCov cs)`: `initiate` / `predict` / `update` of `Universal2DBoxKalmanFilter` and
`predict` / `update` of `Point2DKalmanFilter` are the textbook filter of `Props/C07b.lean` coordinate by coordinate (`update`
where the innovation variances are non-zero). These are one-step theorems: `IsIndep` is stated after `initiate` and `predict`,
not after `update`, and no theorem composes steps or supplies the premise of `C07_source_update` along a run. `project`,
`distance`, the point filter's `initiate`: `Tie/KalmanMat.lean`. The literals in the statements (`1`, `1 / 100`, `1 / 100000`,
`1 / 10`, `0`) are the source's own arguments to `std_position` / `std_velocity`, as they stand in `Gen/KKalmanMat.lean`: decimal
rationals, not the f32-valued constants `Gen.predPosC` … that the differential run puts into the model's `BoxCfg`.
-/
set_option linter.unusedSectionVars false
namespace SimVerif.C07
open SimVerif.Kalman SimVerif.Tie SimVerif.Gen.K Matrix
variable {α : Type} [Field α] [LinearOrder α]

/-- independent coordinates: what `initiate` produces and `predict` keeps (`update` where the innovation variances are non-zero) -/
def IsIndep {n : ℕ} (st : Matrix (Fin n ⊕ Fin n) (Fin 1) α × Matrix (Fin n ⊕ Fin n) (Fin n ⊕ Fin n) α) : Prop :=
  ∃ cs : Fin n → C1 α, st = (col (toMean cs), toCov cs)

theorem C07_source_initiate (wpos wvel : α) (b : Geom.UBox α) : IsIndep (box_initiate wpos wvel b) :=
  ⟨_, tie_box_initiate wpos wvel b⟩

theorem C07_source_predict (cs : Fin 5 → C1 α) (wpos wvel : α) :
    box_predict (box_motion_matrix 1) wpos wvel (col (toMean cs), toCov cs) =
      (let a := box_std_position wpos 1 (1 / 100) (cs 4).p
       let b := box_std_velocity wvel 1 (1 / 100000) (cs 4).p
       (col (toMean (fun i => predict1 (cs i) (ofL a i * ofL a i) (ofL b i * ofL b i))),
        toCov (fun i => predict1 (cs i) (ofL a i * ofL a i) (ofL b i * ofL b i)))) := by
  rw [tie_box_motion_matrix]; exact predict_core cs _ _ rfl

theorem C07_source_predict_indep (wpos wvel : α) (st) (h : IsIndep (n := 5) st) :
    IsIndep (box_predict (box_motion_matrix (1 : α)) wpos wvel st) := by
  obtain ⟨cs, rfl⟩ := h
  exact ⟨_, C07_source_predict cs wpos wvel⟩

theorem C07_source_update (solveLower : {r c : Type} → [Fintype r] → [DecidableEq r] → Matrix r r α → Matrix r c α → Matrix r c α)
    (hsolve : SolveLowerDiag solveLower) (cs : Fin 5 → C1 α) (wpos : α) (m : Geom.UBox α)
    (hs : ∀ i, s1 (cs i) (ofL (box_std_position wpos 1 (1 / 10) (cs 4).p) i * ofL (box_std_position wpos 1 (1 / 10) (cs 4).p) i) ≠ 0) :
    box_update solveLower box_update_matrix wpos (col (toMean cs), toCov cs) m =
      (let a := box_std_position wpos 1 (1 / 10) (cs 4).p
       (col (toMean (fun i => update1 (cs i) (ofL a i * ofL a i) (ofL (boxMeas m) i))),
        toCov (fun i => update1 (cs i) (ofL a i * ofL a i) (ofL (boxMeas m) i)))) := by
  unfold box_update
  simp only [tie_box_update_matrix, tie_box_project]
  rw [gain_core solveLower hsolve cs _ hs]
  exact update_core cs _ (ofL (boxMeas m))

theorem C07_source_point_predict (cs : Fin 2 → C1 α) (wpos wvel : α) :
    point_predict (point_motion_matrix 1) wpos wvel (col (toMean cs), toCov cs) =
      (let a := point_std_position wpos 1 0
       let b := point_std_velocity wvel 1 0
       (col (toMean (fun i => predict1 (cs i) (ofL a i * ofL a i) (ofL b i * ofL b i))),
        toCov (fun i => predict1 (cs i) (ofL a i * ofL a i) (ofL b i * ofL b i)))) := by
  rw [tie_point_motion_matrix]; exact predict_core cs _ _ rfl

theorem C07_source_point_update (solveLower : {r c : Type} → [Fintype r] → [DecidableEq r] → Matrix r r α → Matrix r c α → Matrix r c α)
    (hsolve : SolveLowerDiag solveLower) (cs : Fin 2 → C1 α) (wpos : α) (p : α × α)
    (hs : ∀ i, s1 (cs i) (ofL (point_std_position wpos 1 0) i * ofL (point_std_position wpos 1 0) i) ≠ 0) :
    point_update solveLower point_update_matrix wpos (col (toMean cs), toCov cs) p =
      (let a := point_std_position wpos 1 0
       (col (toMean (fun i => update1 (cs i) (ofL a i * ofL a i) (ofL (ptMeas p) i))),
        toCov (fun i => update1 (cs i) (ofL a i * ofL a i) (ofL (ptMeas p) i)))) := by
  unfold point_update
  simp only [tie_point_update_matrix, tie_point_project]
  rw [gain_core solveLower hsolve cs _ hs]
  exact update_core cs _ (ofL (ptMeas p))

/-- **the vector filter treats its points independently** (source level): updating a vector of point states with the source's
`Vec2DKalmanFilter::update` gives, at every index, the point filter's update of that index's state and measurement alone -/
theorem C07_source_vec_independent {S P R : Type} (upd : S → P → R) (sts : List S) (ps : List P) (i : Nat)
    (h1 : i < sts.length) (h2 : i < ps.length) :
    (vec_update upd sts ps)[i]? = some (upd sts[i] ps[i]) := by
  rw [tie_vec_update]; simp [h1, h2]

end SimVerif.C07
