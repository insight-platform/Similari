import SimVerif.Props.C03b
import SimVerif.Lemmas.TrackerGC
import SimVerif.Props.C12
/-!
# C03 — GC timing is unobservable: VisualSORT and the batch trackers
Model: `SimVerif.Tracker`.

The one-call theorem of `Props/C03b.lean` for the other three trackers: VisualSORT (`predictV`), batch SORT
(`predictBatch`) and batch VisualSORT (`predictBatchV`).
-/
namespace SimVerif.C03
open SimVerif.Tracker List

theorem predictV_sim (cfg : Cfg) (hb : cfg.batchIds = false) (a b : St) (h : Equiv cfg a b)
    (scene : Nat) (dets : List Det) (table : List VEntry) (picks : List Pick) (a' : St) (recs : List Rec)
    (ha : predictV cfg a scene dets table picks = some (a', recs)) :
    ∃ b', predictV cfg b scene dets table picks = some (b', recs) ∧ Equiv cfg a' b' :=
  sceneStep_sim cfg hb a b h scene (C12.sceneValid_validVisualChoice cfg scene dets.length table picks) a' recs ha

theorem brel_start (cfg : Cfg) (a b : St) (h : Equiv cfg a b) (n : Nat) :
    (awStep cfg b).nextId = (awStep cfg a).nextId ∧
    BRel cfg (awStep cfg a).nextId ((awStep cfg a).nextId + n) (awStep cfg a) (awStep cfg b) := by
  have h1 := h.awStep
  obtain ⟨he1, hi1⟩ := (equiv_iff cfg _ _).mp h1
  refine ⟨hi1.nid.symm, he1, hi1.nid, ⟨rfl, hi1.live, hi1.perm, hi1.nd, ?_⟩, ?_, ?_⟩
  · intro t ht
    have := hi1.bd t ht
    show t.id ≤ (awStep cfg a).nextId + n
    omega
  · intro t ht
    exact hi1.bd t (mem_append_right _ ht)
  · intro t ht
    have := hi1.symm.bd t (mem_append_right _ ht)
    rw [hi1.nid]
    exact this

theorem brel_finish (cfg : Cfg) (lo hi : Nat) (a b : St) (h : BRel cfg lo hi a b) :
    Equiv cfg (setN a hi) (setN b hi) :=
  (equiv_iff cfg _ _).mpr ⟨h.ep, h.inv⟩

theorem batchCall_sim (cfg : Cfg) (hb : cfg.batchIds = true) (a b : St) (h : Equiv cfg a b)
    (jobs : List SJob) (hj : JobsValid cfg jobs) (a' : St) (out : List (Nat × List Rec))
    (ha : batchCall cfg a jobs = some (a', out)) :
    ∃ b', batchCall cfg b jobs = some (b', out) ∧ Equiv cfg a' b' := by
  obtain ⟨hnb, hrel⟩ := brel_start cfg a b h ((jobs.map (·.dets.length)).foldl (· + ·) 0)
  obtain ⟨s₁, hs₁, rfl⟩ := batchCall_some_iff.mp ha
  obtain ⟨s₂, g1, g2⟩ := batchSteps_brel cfg hb _ _ jobs hj _ _ hrel s₁ out hs₁
  rw [← hnb] at g1
  refine ⟨_, batchCall_some_iff.mpr ⟨_, g1, rfl⟩, ?_⟩
  rw [hnb]
  exact brel_finish cfg _ _ s₁ s₂ g2

theorem predictBatch_sim (cfg : Cfg) (hb : cfg.batchIds = true) (a b : St) (h : Equiv cfg a b)
    (scenes : List (Nat × List Det × List Entry × List Pick)) (a' : St) (out : List (Nat × List Rec))
    (ha : predictBatch cfg a scenes = some (a', out)) :
    ∃ b', predictBatch cfg b scenes = some (b', out) ∧ Equiv cfg a' b' := by
  rw [predictBatch_eq_batchCall] at ha ⊢
  exact batchCall_sim cfg hb a b h _ (jobsValid_jobOf cfg scenes) a' out ha

theorem jobsValid_jobOfV (cfg : Cfg) (l : List (Nat × List Det × List VEntry × List Pick)) : JobsValid cfg (l.map (jobOfV cfg)) := by
  intro j hj
  obtain ⟨x, _, rfl⟩ := mem_map.mp hj
  exact C12.sceneValid_validVisualChoice cfg x.1 x.2.1.length x.2.2.1 x.2.2.2

theorem predictBatchV_sim (cfg : Cfg) (hb : cfg.batchIds = true) (a b : St) (h : Equiv cfg a b)
    (scenes : List (Nat × List Det × List VEntry × List Pick)) (a' : St) (out : List (Nat × List Rec))
    (ha : predictBatchV cfg a scenes = some (a', out)) :
    ∃ b', predictBatchV cfg b scenes = some (b', out) ∧ Equiv cfg a' b' := by
  rw [predictBatchV_eq_batchCall] at ha ⊢
  exact batchCall_sim cfg hb a b h _ (jobsValid_jobOfV cfg scenes) a' out ha

theorem predictV_equiv (cfg : Cfg) (hb : cfg.batchIds = false) (a b : St) (h : Equiv cfg a b)
    (scene : Nat) (dets : List Det) (table : List VEntry) (picks : List Pick) :
    (predictV cfg a scene dets table picks = none ∧ predictV cfg b scene dets table picks = none) ∨
    ∃ a' b' recs, predictV cfg a scene dets table picks = some (a', recs) ∧
      predictV cfg b scene dets table picks = some (b', recs) ∧ Equiv cfg a' b' := by
  exact both_of_sim Equiv.symm (fun s => predictV cfg s scene dets table picks)
    (fun a b h => predictV_sim cfg hb a b h scene dets table picks) h

theorem predictBatch_equiv (cfg : Cfg) (hb : cfg.batchIds = true) (a b : St) (h : Equiv cfg a b)
    (scenes : List (Nat × List Det × List Entry × List Pick)) :
    (predictBatch cfg a scenes = none ∧ predictBatch cfg b scenes = none) ∨
    ∃ a' b' out, predictBatch cfg a scenes = some (a', out) ∧
      predictBatch cfg b scenes = some (b', out) ∧ Equiv cfg a' b' := by
  exact both_of_sim Equiv.symm (fun s => predictBatch cfg s scenes)
    (fun a b h => predictBatch_sim cfg hb a b h scenes) h

theorem predictBatchV_equiv (cfg : Cfg) (hb : cfg.batchIds = true) (a b : St) (h : Equiv cfg a b)
    (scenes : List (Nat × List Det × List VEntry × List Pick)) :
    (predictBatchV cfg a scenes = none ∧ predictBatchV cfg b scenes = none) ∨
    ∃ a' b' out, predictBatchV cfg a scenes = some (a', out) ∧
      predictBatchV cfg b scenes = some (b', out) ∧ Equiv cfg a' b' := by
  exact both_of_sim Equiv.symm (fun s => predictBatchV cfg s scenes)
    (fun a b h => predictBatchV_sim cfg hb a b h scenes) h

end SimVerif.C03
