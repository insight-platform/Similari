import SimVerif.Lemmas.Tracker
import SimVerif.Props.C20
/-!
# C20 — spatio-temporal constraints at tracker level

The tracker model has no constraint table: the distance table of a call is an input. In the code the
constraints act in one place only: a (detection, track) pair whose epoch gap and centre distance the table
rejects gets no entry in the call's distance table (`compatible()` fails, no distance is computed). This file
models that as a filter on the table (`constrainedTable`, defined here), with `geo` any function giving the
gap and distance of an entry (the executor reports them per entry; C08 / the `geom` requests check the
distance itself), and says what a valid choice over the filtered table is.
-/
namespace SimVerif.C20
open SimVerif.Tracker SimVerif.Constraints

def admitted (cs : List Constraints.Entry) (geo : Tracker.Entry → Nat × Rat) (x : Tracker.Entry) : Bool :=
  validate cs (geo x).1 (geo x).2 == some true

def constrainedTable (cs : List Constraints.Entry) (geo : Tracker.Entry → Nat × Rat) (table : List Tracker.Entry) : List Tracker.Entry :=
  table.filter (admitted cs geo)

/-- **Binding constraints bound every attachment**: in a valid choice over the constrained table,
a detection is attached to a track only through a pair the constraints admit — its centre distance
does not exceed the limit for its epoch gap. -/
theorem C20_binding (cfg : Cfg) (st : St) (scene e n : Nat) (cs : List Constraints.Entry)
    (geo : Tracker.Entry → Nat × Rat) (table : List Tracker.Entry) (picks : List Pick)
    (h : validChoice cfg st scene e n (constrainedTable cs geo table) picks = true) :
    ∀ i tid, (picks.map contOf)[i]? = some (some tid) →
      ∃ x ∈ table, x.det = i ∧ x.tid = tid ∧ cfg.thr ≤ x.w ∧ validate cs (geo x).1 (geo x).2 = some true := by
  intro i tid hi
  obtain ⟨x, hx, h1, h2, h3⟩ := ((validChoice_iff cfg st scene e n _ picks).mp h).2.2.1 i tid hi
  obtain ⟨hm, ha⟩ := List.mem_filter.mp hx
  exact ⟨x, hm, h1, h2, h3, by simpa [admitted] using ha⟩

theorem C20_only_remove (cs : List Constraints.Entry) (geo : Tracker.Entry → Nat × Rat) (table : List Tracker.Entry) :
    (constrainedTable cs geo table).Sublist table := List.filter_sublist

/-- **Non-binding constraints change nothing**: if no pair of the call violates the table, the
constrained tracker sees exactly the unconstrained distance table (first conjunct), hence has exactly the same
valid choices (second conjunct, a congruence under the first). That the outcomes are then the same, the step
being a function of table and choice, is not part of the statement. -/
theorem C20_nonbinding (cfg : Cfg) (st : St) (scene e n : Nat) (cs : List Constraints.Entry)
    (geo : Tracker.Entry → Nat × Rat) (table : List Tracker.Entry) (picks : List Pick)
    (hnb : ∀ x ∈ table, validate cs (geo x).1 (geo x).2 = some true) :
    constrainedTable cs geo table = table ∧
    validChoice cfg st scene e n (constrainedTable cs geo table) picks = validChoice cfg st scene e n table picks := by
  have : constrainedTable cs geo table = table := by
    unfold constrainedTable
    rw [List.filter_eq_self]
    intro x hx
    simp [admitted, hnb x hx]
  exact ⟨this, by rw [this]⟩

theorem C20_empty (geo : Tracker.Entry → Nat × Rat) (table : List Tracker.Entry) (h : ∀ x ∈ table, 0 ≤ (geo x).2) :
    constrainedTable [] geo table = table := by
  unfold constrainedTable
  rw [List.filter_eq_self]
  intro x hx
  have := h x hx
  simp [admitted, validate, limitFor, Rat.not_lt.mpr this]

end SimVerif.C20
