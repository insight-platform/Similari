import SimVerif.Props.C03
import SimVerif.Lemmas.TrackerGC
/-!
# C03 — the timing of the periodic collection of expired tracks is unobservable
Model: `SimVerif.Tracker`.

Two runs of a simple tracker (`cfg.batchIds = false`) over the same calls — except for the
`set_auto_waste` calls, which may differ arbitrarily — report the same records, epochs and idle
lists, and `wasted()` hands out the same tracks (as multisets). `clear_wasted` is not among the
calls: what it drops does depend on whether the collection has already run.
-/
namespace SimVerif.C03
open SimVerif.Tracker List

inductive Op where
  | predict (scene : Nat) (dets : List Det) (table : List Entry) (picks : List Pick)
  | skip (scene n : Nat)
  | wasted
  | idle (scene : Nat)
  | epoch (scene : Nat)
  | setAw (p : Nat)

inductive Out where
  | recs (r : List Rec)
  | invalid                      -- the choice offered for this call is not a valid one
  | unit
  | wasted (ts : List Trk)
  | idle (ts : List Trk)
  | epoch (e : Nat)

def stepOp (cfg : Cfg) (st : St) : Op → St × Out
  | .predict scene dets table picks =>
    match predict cfg st scene dets table picks with
    | some (st', r) => (st', .recs r)
    | none => (st, .invalid)
  | .skip scene n => (skip cfg st scene n, .unit)
  | .wasted => let r := wastedOp cfg st; (r.1, .wasted r.2)
  | .idle scene => (st, .idle (idle cfg st scene))
  | .epoch scene => (st, .epoch (epochOf st scene))
  | .setAw p => (setAutoWaste st p, .unit)

def run (cfg : Cfg) : St → List Op → List Out
  | _, [] => []
  | st, op :: ops => (stepOp cfg st op).2 :: run cfg (stepOp cfg st op).1 ops

/-- what a caller can tell apart: `wasted()` results are compared as multisets -/
def OutEq : Out → Out → Prop
  | .recs a, .recs b => a = b
  | .invalid, .invalid => True
  | .unit, .unit => True
  | .wasted a, .wasted b => a ~ b
  | .idle a, .idle b => a = b
  | .epoch a, .epoch b => a = b
  | _, _ => False

/-- two states a caller cannot tell apart: same epochs and id counter, the same unexpired live tracks
in the same order, the same tracks expired-or-collected (as a multiset); the countdown of the
periodic collection is free. Track ids are unique. -/
def Equiv (cfg : Cfg) (a b : St) : Prop :=
  a.epochs = b.epochs ∧ a.nextId = b.nextId ∧
  (collect cfg a).live = (collect cfg b).live ∧ (collect cfg a).wasted ~ (collect cfg b).wasted ∧
  ((a.live ++ a.wasted).map (·.id)).Nodup ∧ ((b.live ++ b.wasted).map (·.id)).Nodup ∧
  (∀ t ∈ a.live ++ a.wasted, t.id ≤ a.nextId) ∧ (∀ t ∈ b.live ++ b.wasted, t.id ≤ b.nextId)

theorem equiv_iff (cfg : Cfg) (a b : St) :
    Equiv cfg a b ↔ a.epochs = b.epochs ∧ Inv (fun t => !expired cfg a t) a b := by
  have hlb : a.epochs = b.epochs → (collect cfg b).live = b.live.filter (fun t => !expired cfg a t) := by
    intro he
    show b.live.filter (fun t => !expired cfg b t) = _
    rw [expired_congr cfg a b he]
  have hw : (collect cfg a).live = (collect cfg b).live →
      ((collect cfg a).wasted ~ (collect cfg b).wasted ↔ a.live ++ a.wasted ~ b.live ++ b.wasted) := fun hl => by
    rw [← perm_append_left_iff (collect cfg b).live]
    nth_rw 1 [← hl]
    exact ⟨fun h => (collect_perm cfg a).symm.trans (h.trans (collect_perm cfg b)),
      fun h => (collect_perm cfg a).trans (h.trans (collect_perm cfg b).symm)⟩
  constructor
  · rintro ⟨he, hn, hl, hw', nda, _, bda, _⟩
    exact ⟨he, hn, hlb he ▸ hl, (hw hl).mp hw', nda, bda⟩
  · rintro ⟨he, h⟩
    have hl : (collect cfg a).live = (collect cfg b).live := by rw [hlb he]; exact h.live
    exact ⟨he, h.nid, hl, (hw hl).mpr h.perm, h.nd, h.symm.nd, h.bd, h.symm.bd⟩

theorem Equiv.symm {cfg : Cfg} {a b : St} (h : Equiv cfg a b) : Equiv cfg b a := by
  obtain ⟨he, hi⟩ := (equiv_iff cfg a b).mp h
  refine (equiv_iff cfg b a).mpr ⟨he.symm, ?_⟩
  rw [← expired_congr cfg a b he]
  exact hi.symm

theorem Equiv.trans {cfg : Cfg} {a b c : St} (h1 : Equiv cfg a b) (h2 : Equiv cfg b c) : Equiv cfg a c := by
  obtain ⟨he1, hi1⟩ := (equiv_iff cfg a b).mp h1
  obtain ⟨he2, hi2⟩ := (equiv_iff cfg b c).mp h2
  refine (equiv_iff cfg a c).mpr ⟨he1.trans he2, ?_⟩
  rw [← expired_congr cfg a b he1] at hi2
  exact hi1.trans hi2

theorem Equiv.nd_left {cfg : Cfg} {a b : St} (h : Equiv cfg a b) : ((a.live ++ a.wasted).map (·.id)).Nodup := h.2.2.2.2.1
theorem Equiv.nd_right {cfg : Cfg} {a b : St} (h : Equiv cfg a b) : ((b.live ++ b.wasted).map (·.id)).Nodup := h.2.2.2.2.2.1
theorem Equiv.bd_left {cfg : Cfg} {a b : St} (h : Equiv cfg a b) : ∀ t ∈ a.live ++ a.wasted, t.id ≤ a.nextId := h.2.2.2.2.2.2.1
theorem Equiv.bd_right {cfg : Cfg} {a b : St} (h : Equiv cfg a b) : ∀ t ∈ b.live ++ b.wasted, t.id ≤ b.nextId := h.2.2.2.2.2.2.2

/-- only `epochs`, `live`, `wasted`, `nextId` matter -/
theorem equiv_fields (cfg : Cfg) (a b : St) (he : a.epochs = b.epochs) (hl : a.live = b.live)
    (hw : a.wasted = b.wasted) (hn : a.nextId = b.nextId) (hnd : ((a.live ++ a.wasted).map (·.id)).Nodup)
    (hb : ∀ t ∈ a.live ++ a.wasted, t.id ≤ a.nextId) : Equiv cfg a b := by
  refine (equiv_iff cfg a b).mpr ⟨he, hn, ?_, ?_, hnd, hb⟩
  · rw [hl]
  · rw [hl, hw]

theorem Equiv.collect_self (cfg : Cfg) (a : St) (hnd : ((a.live ++ a.wasted).map (·.id)).Nodup)
    (hb : ∀ t ∈ a.live ++ a.wasted, t.id ≤ a.nextId) : Equiv cfg a (collect cfg a) := by
  exact (equiv_iff cfg a _).mpr ⟨rfl, rfl, ListFacts.filter_filter_of_imp _ _ a.live fun _ h => h,
    (collect_perm cfg a).symm, hnd, hb⟩

theorem Equiv.awStep_self (cfg : Cfg) (a : St) (hnd : ((a.live ++ a.wasted).map (·.id)).Nodup)
    (hb : ∀ t ∈ a.live ++ a.wasted, t.id ≤ a.nextId) : Equiv cfg a (awStep cfg a) := by
  rcases awStep_eq cfg a with e | e <;> rw [e]
  · have h := Equiv.collect_self cfg a hnd hb
    exact h.trans (equiv_fields cfg _ _ rfl rfl rfl rfl h.nd_right h.bd_right)
  · exact equiv_fields cfg _ _ rfl rfl rfl rfl hnd hb

theorem Equiv.collect {cfg : Cfg} {a b : St} (h : Equiv cfg a b) : Equiv cfg (collect cfg a) (collect cfg b) :=
  (Equiv.collect_self cfg a h.nd_left h.bd_left).symm.trans (h.trans (Equiv.collect_self cfg b h.nd_right h.bd_right))

theorem Equiv.awStep {cfg : Cfg} {a b : St} (h : Equiv cfg a b) : Equiv cfg (awStep cfg a) (awStep cfg b) :=
  (Equiv.awStep_self cfg a h.nd_left h.bd_left).symm.trans (h.trans (Equiv.awStep_self cfg b h.nd_right h.bd_right))

theorem Equiv.setEpoch {cfg : Cfg} {a b : St} (h : Equiv cfg a b) (s e : Nat) (hle : epochOf a s ≤ e) :
    Equiv cfg (setEpoch a s e) (setEpoch b s e) := by
  obtain ⟨he, hi⟩ := (equiv_iff cfg a b).mp h
  refine (equiv_iff cfg _ _).mpr ⟨?_, ?_⟩
  · show a.epochs.filter _ ++ _ = b.epochs.filter _ ++ _
    rw [he]
  · have hm := hi.mono (q' := fun t => !expired cfg (Tracker.setEpoch a s e) t) (unexpired_of_later_epoch cfg a s e hle)
    exact ⟨hm.nid, hm.live, hm.perm, hm.nd, hm.bd⟩

theorem sceneStep_sim (cfg : Cfg) (hb : cfg.batchIds = false) (a b : St) (h : Equiv cfg a b)
    (scene : Nat) {valid : St → Nat → Bool} {dets : List Det} {picks : List Pick}
    (hvalid : SceneValid cfg scene picks valid) (a' : St) (recs : List Rec)
    (ha : sceneStep cfg valid (awStep cfg a) scene dets picks 0 0 = some (a', recs)) :
    ∃ b', sceneStep cfg valid (awStep cfg b) scene dets picks 0 0 = some (b', recs) ∧ Equiv cfg a' b' := by
  obtain ⟨he1, hi1⟩ := (equiv_iff cfg _ _).mp h.awStep
  obtain ⟨b', hb', ea, eb, hinv⟩ := sceneStep_inv cfg hb scene hvalid _ _ he1
    (hi1.mono (unexpired_of_later_epoch cfg _ scene _ (Nat.le_succ _))) a' recs ha
  refine ⟨b', hb', (equiv_iff cfg _ _).mpr ⟨eb.symm, ?_⟩⟩
  rw [expired_congr cfg a' _ ea]
  exact hinv

theorem predict_sim (cfg : Cfg) (hb : cfg.batchIds = false) (a b : St) (h : Equiv cfg a b)
    (scene : Nat) (dets : List Det) (table : List Entry) (picks : List Pick) (a' : St) (recs : List Rec)
    (ha : predict cfg a scene dets table picks = some (a', recs)) :
    ∃ b', predict cfg b scene dets table picks = some (b', recs) ∧ Equiv cfg a' b' :=
  sceneStep_sim cfg hb a b h scene (sceneValid_validChoice cfg scene dets.length table picks) a' recs ha

/-- where a history starts, e.g. `equiv_refl cfg {} nodup_nil (fun _ h => nomatch h) : Equiv cfg {} {}` -/
theorem equiv_refl (cfg : Cfg) (a : St) (hnd : ((a.live ++ a.wasted).map (·.id)).Nodup)
    (hb : ∀ t ∈ a.live ++ a.wasted, t.id ≤ a.nextId) : Equiv cfg a a := by
  exact equiv_fields cfg a a rfl rfl rfl rfl hnd hb

theorem Equiv.setAw_self (cfg : Cfg) (a : St) (p : Nat) (hnd : ((a.live ++ a.wasted).map (·.id)).Nodup)
    (hb : ∀ t ∈ a.live ++ a.wasted, t.id ≤ a.nextId) : Equiv cfg a (setAutoWaste a p) := by
  exact equiv_fields cfg a _ rfl rfl rfl rfl hnd hb

theorem Equiv.wastedOp {cfg : Cfg} {a b : St} (h : Equiv cfg a b) :
    Equiv cfg (wastedOp cfg a).1 (wastedOp cfg b).1 := by
  obtain ⟨he, hn, hl, _, nda, _, bda, _⟩ := id h
  have hs : (Tracker.wastedOp cfg a).1.live ++ (Tracker.wastedOp cfg a).1.wasted <+ a.live ++ a.wasted := by
    rw [wastedOp_live, wastedOp_wasted, append_nil]
    exact (filter_sublist (l := a.live)).trans (sublist_append_left _ _)
  exact equiv_fields cfg _ _ he hl rfl hn (nda.sublist (hs.map _)) (fun t ht => bda t (hs.subset ht))

/-- **One call**: indistinguishable states stay indistinguishable and answer alike. -/
theorem step_equiv (cfg : Cfg) (hb : cfg.batchIds = false) (a b : St) (h : Equiv cfg a b) (op : Op) :
    OutEq (stepOp cfg a op).2 (stepOp cfg b op).2 ∧ Equiv cfg (stepOp cfg a op).1 (stepOp cfg b op).1 := by
  obtain ⟨he, _, hl, hw, _⟩ := id h
  cases op with
  | predict scene dets table picks =>
    rcases both_of_sim Equiv.symm (fun s => predict cfg s scene dets table picks)
      (fun a b h => predict_sim cfg hb a b h scene dets table picks) h with ⟨ha, hb'⟩ | ⟨a', b', r, ha, hb', heq⟩
    · unfold stepOp; simp only [ha, hb']
      exact ⟨trivial, h⟩
    · unfold stepOp; simp only [ha, hb']
      exact ⟨rfl, heq⟩
  | skip scene n =>
    refine ⟨trivial, ?_⟩
    show Equiv cfg (skip cfg a scene n) (skip cfg b scene n)
    unfold skip
    rw [← epochOf_congr a b he scene]
    exact (h.setEpoch scene _ (by omega)).collect
  | wasted =>
    exact ⟨hw, h.wastedOp⟩
  | idle scene =>
    refine ⟨?_, h⟩
    show idle cfg a scene = idle cfg b scene
    rw [← (C03_idle cfg a scene).1, ← (C03_idle cfg b scene).1]
    exact idle_congr cfg (collect cfg a) (collect cfg b) he hl scene
  | epoch scene => exact ⟨epochOf_congr a b he scene, h⟩
  | setAw p =>
    refine ⟨trivial, ?_⟩
    exact (Equiv.setAw_self cfg a p h.nd_left h.bd_left).symm.trans (h.trans (Equiv.setAw_self cfg b p h.nd_right h.bd_right))

/-- **Whole histories, same calls**, from indistinguishable states. -/
theorem C03_gc_unobservable_same_ops (cfg : Cfg) (hb : cfg.batchIds = false) (a b : St) (h : Equiv cfg a b)
    (ops : List Op) : Forall₂ OutEq (run cfg a ops) (run cfg b ops) := by
  induction ops generalizing a b with
  | nil => exact Forall₂.nil
  | cons op ops ih =>
    obtain ⟨h1, h2⟩ := step_equiv cfg hb a b h op
    exact Forall₂.cons h1 (ih _ _ h2)

def isSetAw : Op → Bool
  | .setAw _ => true
  | _ => false

def visible (cfg : Cfg) : St → List Op → List Out
  | _, [] => []
  | st, op :: ops =>
    if isSetAw op then visible cfg (stepOp cfg st op).1 ops
    else (stepOp cfg st op).2 :: visible cfg (stepOp cfg st op).1 ops

theorem visible_setAw (cfg : Cfg) (st : St) (op : Op) (ops : List Op) (h : isSetAw op = true) :
    visible cfg st (op :: ops) = visible cfg (stepOp cfg st op).1 ops := by
  simp only [visible, h, if_true]

theorem visible_other (cfg : Cfg) (st : St) (op : Op) (ops : List Op) (h : isSetAw op = false) :
    visible cfg st (op :: ops) = (stepOp cfg st op).2 :: visible cfg (stepOp cfg st op).1 ops := by
  simp only [visible, h, Bool.false_eq_true, if_false]

theorem filter_cons_setAw {o : Op} (ops : List Op) (h : isSetAw o = true) :
    (o :: ops).filter (fun o => !isSetAw o) = ops.filter (fun o => !isSetAw o) :=
  filter_cons_of_neg (by simp [h])

theorem filter_cons_visible {o : Op} (ops : List Op) (h : isSetAw o = false) :
    (o :: ops).filter (fun o => !isSetAw o) = o :: ops.filter (fun o => !isSetAw o) :=
  filter_cons_of_pos (by simp [h])

theorem equiv_stepAw_right (cfg : Cfg) (a b : St) (h : Equiv cfg a b) (op : Op) (ho : isSetAw op = true) :
    Equiv cfg a (stepOp cfg b op).1 := by
  cases op with
  | setAw p => exact h.trans (Equiv.setAw_self cfg b p h.nd_right h.bd_right)
  | _ => cases ho

/-- **GC timing is unobservable**: two histories that differ only in their `set_auto_waste` calls
(anywhere, any periodicities) give the same answers to all other calls. -/
theorem C03_gc_unobservable (cfg : Cfg) (hb : cfg.batchIds = false) (a b : St) (h : Equiv cfg a b)
    (ops₁ ops₂ : List Op) (hops : ops₁.filter (fun o => !isSetAw o) = ops₂.filter (fun o => !isSetAw o)) :
    Forall₂ OutEq (visible cfg a ops₁) (visible cfg b ops₂) := by
  -- outer induction on `ops₁`, inner on `ops₂`: a `set_auto_waste` at the head of either list is skipped on that side
  -- alone (`equiv_stepAw_right`); two visible heads are the same call, answered alike (`step_equiv`)
  induction ops₁ generalizing ops₂ a b with
  | nil =>
    induction ops₂ generalizing b with
    | nil => exact Forall₂.nil
    | cons o₂ r₂ ih₂ =>
      cases ho : isSetAw o₂ with
      | true =>
        rw [visible_setAw cfg b o₂ r₂ ho]
        rw [filter_cons_setAw r₂ ho] at hops
        exact ih₂ _ (equiv_stepAw_right cfg a b h o₂ ho) hops
      | false =>
        rw [filter_cons_visible r₂ ho] at hops
        cases hops
  | cons o₁ r₁ ih₁ =>
    cases ho₁ : isSetAw o₁ with
    | true =>
      rw [visible_setAw cfg a o₁ r₁ ho₁]
      rw [filter_cons_setAw r₁ ho₁] at hops
      exact ih₁ _ b (equiv_stepAw_right cfg b a h.symm o₁ ho₁).symm _ hops
    | false =>
      rw [filter_cons_visible r₁ ho₁] at hops
      induction ops₂ generalizing b with
      | nil => cases hops
      | cons o₂ r₂ ih₂ =>
        cases ho₂ : isSetAw o₂ with
        | true =>
          rw [visible_setAw cfg b o₂ r₂ ho₂]
          rw [filter_cons_setAw r₂ ho₂] at hops
          exact ih₂ _ (equiv_stepAw_right cfg a b h o₂ ho₂) hops
        | false =>
          rw [filter_cons_visible r₂ ho₂] at hops
          obtain ⟨e1, e2⟩ := cons.inj hops
          subst e1
          rw [visible_other cfg a o₁ r₁ ho₁, visible_other cfg b o₁ r₂ ho₁]
          obtain ⟨h1, h2⟩ := step_equiv cfg hb a b h o₁
          exact Forall₂.cons h1 (ih₁ _ _ h2 r₂ e2)

end SimVerif.C03
