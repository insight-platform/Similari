import SimVerif.Props.C08
import SimVerif.Tie.Own
/-!
# C15 at source level

`Gen.L.exclusively_owned_areas` (regenerated from `src/utils/clipping/bbox_own_areas.rs`) clips box `i` against exactly the
boxes near it (`Tie/Own.lean`), and by `C08_toofar_sound` every other box with a point in both bounding circles is near it,
whatever the order of the set; box `i` itself never is. `ownSpec` is the specification written in `Tie/Own.lean`; no theorem
relates it to the grid model's `own` / `shares` of `Props/C15.lean`. (`C08_toofar_sound` is about the model's `tooFar`; the source's
`too_far` is the comparison of `tie_too_far`, over ℝ equal to `tooFar` by `C08_toofar_sqrtfree`.) What the subtraction and
the area then yield is `geo`'s contract (correspondence run).
-/
namespace SimVerif.C15
open SimVerif.Geom SimVerif.Tie SimVerif.Gen.L
variable {α : Type} [Field α] [LinearOrder α] [IsStrictOrderedRing α]

theorem C15_source_overlapping_is_near (boxes : List (UBox α)) (i j : Nat) (a b : UBox α) (hij : i ≠ j)
    (ha : boxes[i]? = some a) (hb : boxes[j]? = some b) (px py : α)
    (hpa : (px - a.xc) * (px - a.xc) + (py - a.yc) * (py - a.yc) ≤ radiusSq a)
    (hpb : (px - b.xc) * (px - b.xc) + (py - b.yc) * (py - b.yc) ≤ radiusSq b) :
    nearB tooFar boxes i j = true := by
  unfold nearB
  simp only [ha, hb]
  have h1 := C08.C08_toofar_sound a b px py hpa hpb
  have h2 := C08.C08_toofar_sound b a px py hpb hpa
  rcases Nat.lt_or_gt_of_ne hij with h | h
  · simp [h, h1]
  · simp [h, h2]

theorem C15_source_spec {P : Type} (polyOf : UBox α → P) (diff : P → P → P) (boxes : List (UBox α)) :
    exclusively_owned_areas tooFar polyOf diff boxes = ownSpec tooFar polyOf diff boxes ∧
    ∀ i, nearB tooFar boxes i i = false :=
  ⟨tie_exclusively_owned_areas tooFar polyOf diff boxes, nearB_irrefl tooFar boxes⟩

end SimVerif.C15
