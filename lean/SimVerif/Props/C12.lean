import SimVerif.Props.C02
import SimVerif.Props.C17
import SimVerif.Lemmas.TrackerScene
/-!
# C12 — VisualSORT: appearance votes first, positional fallback, truthful voting type

Model: `SimVerif.Tracker.{visualDecided, positionalRest, validVisualChoice, predictSceneV}` over the
best-fit voting of `SimVerif.Voting` — `src/trackers/visual_sort/{simple_api,batch_api,voting}.rs`.
-/
namespace SimVerif.C12
open SimVerif.Tracker SimVerif.Voting SimVerif.ListFacts List

def decisionOf (cfg : Cfg) (table : List VEntry) (i : Nat) : Option (Nat × Option Nat) :=
  (visualDecided cfg table).find? (fun d => d.1 == i)

/-- the picks as the positional stage sees them: decided detections are out of the game -/
def masked (cfg : Cfg) (table : List VEntry) (n : Nat) (picks : List Pick) : List Pick :=
  ((List.range n).zip picks).map (fun (i, p) => if (visualDecided cfg table).any (fun d => d.1 == i) then .fresh 0 else p)

theorem validVisualChoice_parts (cfg : Cfg) (st : St) (scene e n : Nat) (table : List VEntry) (picks : List Pick)
    (h : validVisualChoice cfg st scene e n table picks = true) :
    picks.length = n ∧
    (∀ i p, picks[i]? = some p →
      match decisionOf cfg table i with
      | some (_, some tid) => p = .cont tid true
      | some (_, none) => ∃ id, p = .fresh id
      | none => ∀ tid vis, p = .cont tid vis → vis = false) ∧
    validChoice cfg st scene e n (positionalRest (visualDecided cfg table) table) (masked cfg table n picks) = true ∧
    ∀ x ∈ table, entryOk cfg st scene e { det := x.det, tid := x.tid, w := 0 } = true := by
  unfold validVisualChoice at h
  simp only [Bool.and_eq_true] at h
  obtain ⟨⟨⟨hlen, htab⟩, hall⟩, hpos⟩ := h
  have hlen' : picks.length = n := by simpa using hlen
  refine ⟨hlen', ?_, hpos, List.all_eq_true.mp htab⟩
  intro i p hp
  have hmem : (i, p) ∈ (List.range n).zip picks := hlen' ▸ (mem_zip_range_iff picks i p).mpr hp
  rw [List.all_eq_true] at hall
  have := hall _ hmem
  unfold decisionOf
  simp only at this
  split at this
  · rename_i hd; rw [hd]; simpa using this
  · rename_i hd; rw [hd]
    simp only
    cases p with
    | cont a b => simp at this
    | fresh id => exact ⟨id, rfl⟩
  · rename_i hd; rw [hd]
    simp only
    intro tid vis hpv
    subst hpv
    simpa using this

/-- the same read from the pick: a continuation is the appearance award of its detection, as *Visual*, or its
detection is undecided and it is *Positional* -/
theorem cont_cases (cfg : Cfg) (st : St) (scene e n : Nat) (table : List VEntry) (picks : List Pick)
    (h : validVisualChoice cfg st scene e n table picks = true) (i tid : Nat) (vis : Bool)
    (hp : picks[i]? = some (.cont tid vis)) :
    (∃ j, decisionOf cfg table i = some (j, some tid) ∧ vis = true) ∨ (decisionOf cfg table i = none ∧ vis = false) := by
  have hv := (validVisualChoice_parts cfg st scene e n table picks h).2.1 i _ hp
  split at hv
  · rename_i j t hd
    cases hv
    exact Or.inl ⟨j, hd, rfl⟩
  · obtain ⟨id, hid⟩ := hv; cases hid
  · rename_i hd
    exact Or.inr ⟨hd, hv tid vis rfl⟩

/-- **Truthful voting type and the lost contest.** A detection the appearance stage awarded track `tid` is
attached to exactly that track, as *Visual*; one whose heaviest appearance claim lost the contest starts a new
track; every other attachment is *Positional*. -/
theorem C12_truthful (cfg : Cfg) (st : St) (scene e n : Nat) (table : List VEntry) (picks : List Pick)
    (h : validVisualChoice cfg st scene e n table picks = true) (i : Nat) (p : Pick) (hp : picks[i]? = some p) :
    (∀ j tid, decisionOf cfg table i = some (j, some tid) → p = .cont tid true) ∧
    (∀ j, decisionOf cfg table i = some (j, none) → ∃ id, p = .fresh id) ∧
    (∀ tid, p = .cont tid true ↔ ∃ j, decisionOf cfg table i = some (j, some tid)) := by
  have hv := (validVisualChoice_parts cfg st scene e n table picks h).2.1 i p hp
  refine ⟨?_, ?_, ?_⟩
  · intro j tid hd; rw [hd] at hv; exact hv
  · intro j hd; rw [hd] at hv; exact hv
  · intro tid
    constructor
    · rintro rfl
      obtain ⟨j, hd, _⟩ | ⟨_, hf⟩ := cont_cases cfg st scene e n table picks h i tid true hp
      · exact ⟨j, hd⟩
      · cases hf
    · rintro ⟨j, hd⟩; rw [hd] at hv; exact hv

/-- **The record carries the pick's voting type**: *Visual* exactly for a visual continuation. -/
theorem C12_record (cfg : Cfg) (scene e : Nat) (st st' : St) (d : Det) (p : Pick) (r : Rec)
    (h : applyPick cfg scene e st d p = some (st', r)) :
    r.visual = true ↔ ∃ tid, p = .cont tid true := by
  obtain ⟨tid, vis, t, rfl, _, _, rfl⟩ | ⟨id, rfl, _, rfl⟩ := applyPick_cases h
  · constructor
    · intro (hv : vis = true); exact ⟨tid, by rw [hv]⟩
    · rintro ⟨_, ht⟩; cases ht; rfl
  · constructor
    · intro hv; cases hv
    · rintro ⟨_, ht⟩; cases ht

theorem mem_positionalRest (decided : List (Nat × Option Nat)) (table : List VEntry) (x : Tracker.Entry)
    (h : x ∈ positionalRest decided table) :
    ∃ y ∈ table, y.det = x.det ∧ y.tid = x.tid ∧ y.w = some x.w ∧
      decided.any (fun p => p.1 == x.det) = false ∧ x.tid ∉ decided.filterMap (·.2) := by
  unfold positionalRest at h
  obtain ⟨y, hy, hf⟩ := mem_filterMap.mp h
  split at hf
  · cases hf
  · rename_i hc
    cases hw : y.w with
    | none => rw [hw] at hf; cases hf
    | some w =>
      rw [hw] at hf
      simp only [Option.map_some, Option.some.injEq] at hf
      subst hf
      simp only [Bool.or_eq_true, not_or, Bool.not_eq_true] at hc
      refine ⟨y, hy, rfl, rfl, hw, hc.1, ?_⟩
      have := hc.2
      intro hm
      rw [← contains_iff_mem] at hm
      rw [hm] at this; cases this

theorem masked_cont (cfg : Cfg) (table : List VEntry) (n : Nat) (picks : List Pick) (hlen : picks.length = n)
    (i tid : Nat) (vis : Bool) (hp : picks[i]? = some (.cont tid vis)) (hdec : decisionOf cfg table i = none) :
    ((masked cfg table n picks).map contOf)[i]? = some (some tid) := by
  have hany : (visualDecided cfg table).any (fun d => d.1 == i) = false := by
    rw [List.any_eq_false]
    exact fun d hd => List.find?_eq_none.mp hdec d hd
  have hi : i < n := hlen ▸ (List.getElem?_eq_some_iff.mp hp).1
  have hz : ((List.range n).zip picks)[i]? = some (i, .cont tid vis) :=
    List.getElem?_zip_eq_some.mpr ⟨List.getElem?_range hi, hp⟩
  unfold masked
  rw [List.getElem?_map, List.getElem?_map, hz, Option.map_some, Option.map_some]
  show some (contOf (if (visualDecided cfg table).any (fun d => d.1 == i) = true then .fresh 0 else .cont tid vis)) = _
  rw [hany]
  rfl

/-- **Positional fallback.** An undecided detection is attached to an existing track only through a table entry
of that pair whose positional weight reaches the threshold and whose track appearance did not award; the
positional choice is one-to-one and of maximum weight over exactly the remaining distances. -/
theorem C12_positional (cfg : Cfg) (st : St) (scene e n : Nat) (table : List VEntry) (picks : List Pick)
    (h : validVisualChoice cfg st scene e n table picks = true) :
    (∀ i tid vis, picks[i]? = some (.cont tid vis) → decisionOf cfg table i = none →
        ∃ y ∈ table, y.det = i ∧ y.tid = tid ∧ (∃ w, y.w = some w ∧ cfg.thr ≤ w) ∧
          tid ∉ (visualDecided cfg table).filterMap (·.2)) ∧
    (((masked cfg table n picks).map contOf).filterMap id).Nodup ∧
    AssignX.objective (esOf (positionalRest (visualDecided cfg table) table)) cfg.thr
        (AssignX.queries (esOf (positionalRest (visualDecided cfg table) table)))
        ((AssignX.queries (esOf (positionalRest (visualDecided cfg table) table))).map
          (fun q => ((masked cfg table n picks).map contOf).getD (q - 1) none))
      = AssignX.bestOf (esOf (positionalRest (visualDecided cfg table) table)) cfg.thr := by
  obtain ⟨hlen, _, hpos, _⟩ := validVisualChoice_parts cfg st scene e n table picks h
  obtain ⟨hnd, hgate, hopt⟩ := C02.C02_tracker cfg st scene e n _ _ hpos
  refine ⟨?_, hnd, hopt⟩
  intro i tid vis hp hdec
  have hm := masked_cont cfg table n picks hlen i tid vis hp hdec
  obtain ⟨x, hx, hxd, hxt, hxw⟩ := hgate i tid hm
  obtain ⟨y, hy, hyd, hyt, hyw, _, hex⟩ := mem_positionalRest _ _ x hx
  exact ⟨y, hy, by rw [hyd, hxd], by rw [hyt, hxt], ⟨x.w, hyw, hxw⟩, by rw [← hxt]; exact hex⟩

/-- **No claim, no pair ⇒ a new track**: a detection without an appearance decision and without a
gated positional pair in the table starts a new track. -/
theorem C12_new (cfg : Cfg) (st : St) (scene e n : Nat) (table : List VEntry) (picks : List Pick)
    (h : validVisualChoice cfg st scene e n table picks = true) (i : Nat) (p : Pick) (hp : picks[i]? = some p)
    (hdec : decisionOf cfg table i = none)
    (hno : ∀ y ∈ table, y.det = i → ∀ w, y.w = some w → w < cfg.thr) : ∃ id, p = .fresh id := by
  cases p with
  | fresh id => exact ⟨id, rfl⟩
  | cont tid vis =>
    obtain ⟨y, hy, hyd, _, ⟨w, hw, hthr⟩, _⟩ := (C12_positional cfg st scene e n table picks h).1 i tid vis hp hdec
    have := hno y hy hyd w hw
    omega

theorem decideOne_award (all : List (Elt × Bool)) (q w : Nat) (h : (decideOne all q).2 = some w) :
    ∃ e, (e, true) ∈ all ∧ e.q = q ∧ e.w = w := by
  unfold decideOne at h
  split at h
  · rename_i e real hf
    cases real with
    | false => cases h
    | true =>
      have h1 := find?_some hf
      simp only [beq_iff_eq] at h1
      exact ⟨e, mem_of_find?_eq_some hf, h1, Option.some.inj h⟩
  · cases h

/-- **One winner per track in the appearance stage**: the tracks awarded by appearance are pairwise
distinct (the heaviest claimant gets the track — `C17_bestfit_rule` — every later one loses). -/
theorem C12_one_winner (cfg : Cfg) (table : List VEntry) :
    ((visualDecided cfg table).filterMap (·.2)).Nodup := by
  unfold visualDecided
  simp only [filterMap_map]
  apply Nodup.filterMap _ (firsts_nodup _)
  intro q q' w hq hq'
  have hnd := (C17.C17_bestfit_one_winner (maxD := Nms.F32_MAX) (mv := cfg.minVotes) (featStream table)).1
  obtain ⟨e, he, heq, hew⟩ := decideOne_award _ q w hq
  obtain ⟨e', he', heq', hew'⟩ := decideOne_award _ q' w hq'
  have := inj_on_of_nodup_map hnd (mem_filter.mpr ⟨he, rfl⟩) (mem_filter.mpr ⟨he', rfl⟩) (by simp [hew, hew'])
  injection this with h3 _
  rw [← heq, ← heq', h3]

theorem decision_mem (cfg : Cfg) (table : List VEntry) (i j : Nat) (o : Option Nat)
    (h : decisionOf cfg table i = some (j, o)) : (i, o) ∈ visualDecided cfg table := by
  unfold decisionOf at h
  have h1 := find?_some h
  simp only [beq_iff_eq] at h1
  subst h1
  exact mem_of_find?_eq_some h

theorem decided_in_table (cfg : Cfg) (table : List VEntry) (i tid : Nat)
    (h : (i, some tid) ∈ visualDecided cfg table) : ∃ x ∈ table, x.tid = tid := by
  unfold visualDecided at h
  obtain ⟨q, _, hq⟩ := mem_map.mp h
  obtain ⟨e, hm, -, hew⟩ := decideOne_award _ q tid (congrArg Prod.snd hq)
  -- an awarded claim is a candidate, a candidate comes from a kept distance, and that from an entry of the table
  have he := award_true_mem _ _ _ hm
  have hk := ((mem_cands _ _ _ e).mp ((mergeSort_perm _ _).mem_iff.mp he)).1
  obtain ⟨⟨k, x⟩, hk1, hk2⟩ := mem_map.mp hk
  obtain ⟨d, hd, -, -, hkd⟩ := (mem_kept _ _ k x).mp hk1
  obtain ⟨y, hy, hyd⟩ := mem_map.mp hd
  refine ⟨y, hy, ?_⟩
  have hkw : k.2 = e.w := congrArg Prod.snd hk2
  rw [hkd] at hkw
  rw [← hew, ← hkw, ← hyd]

/-- every continued track has an entry in the table, by the appearance award or by the positional gate, and every
entry of the table is admissible -/
theorem visual_conts (cfg : Cfg) (st : St) (scene e n : Nat) (table : List VEntry) (picks : List Pick)
    (h : validVisualChoice cfg st scene e n table picks = true) :
    ∀ tid vis, Pick.cont tid vis ∈ picks →
      ∃ t, findLive st tid = some t ∧ t.scene = scene ∧ e - t.lastUpd ≤ cfg.maxIdle := by
  intro tid vis hp
  obtain ⟨_, _, _, htab⟩ := validVisualChoice_parts cfg st scene e n table picks h
  have fin : ∀ x ∈ table, x.tid = tid →
      ∃ t, findLive st tid = some t ∧ t.scene = scene ∧ e - t.lastUpd ≤ cfg.maxIdle :=
    fun x hx hxt => hxt ▸ (entryOk_iff cfg st scene e _).mp (htab x hx)
  obtain ⟨i, hi⟩ := List.getElem?_of_mem hp
  obtain ⟨j, hd, _⟩ | ⟨hd, _⟩ := cont_cases cfg st scene e n table picks h i tid vis hi
  · obtain ⟨x, hx, hxt⟩ := decided_in_table cfg table i tid (decision_mem cfg table i j _ hd)
    exact fin x hx hxt
  · obtain ⟨y, hy, _, hyt, _, _⟩ := (C12_positional cfg st scene e n table picks h).1 i tid vis hi hd
    exact fin y hy hyt

/-- the VisualSORT validity test is one a scene step can be run with -/
theorem sceneValid_validVisualChoice (cfg : Cfg) (scene n : Nat) (table : List VEntry) (picks : List Pick) :
    SceneValid cfg scene picks (fun s e => validVisualChoice cfg s scene e n table picks) where
  congr a b e h := by
    show validVisualChoice cfg a scene e n table picks = validVisualChoice cfg b scene e n table picks
    unfold validVisualChoice
    rw [h, validChoice_congr cfg a b scene e h]
  conts a e hv := visual_conts cfg a scene e n table picks hv

/-- **Both stages together: no track is attached to two detections of one call.** -/
theorem C12_one_to_one (cfg : Cfg) (st : St) (scene e n : Nat) (table : List VEntry) (picks : List Pick)
    (h : validVisualChoice cfg st scene e n table picks = true) (i j tid : Nat) (v1 v2 : Bool)
    (hi : picks[i]? = some (.cont tid v1)) (hj : picks[j]? = some (.cont tid v2)) : i = j := by
  have hlen := (validVisualChoice_parts cfg st scene e n table picks h).1
  have hP := C12_positional cfg st scene e n table picks h
  have awarded : ∀ k, (k, some tid) ∈ visualDecided cfg table → tid ∈ (visualDecided cfg table).filterMap (·.2) :=
    fun k hk => mem_filterMap.mpr ⟨(k, some tid), hk, rfl⟩
  -- `tid` was awarded by appearance, or matched by the positional stage, which is offered only the tracks not awarded
  have claim : ∀ k v, picks[k]? = some (.cont tid v) → (k, some tid) ∈ visualDecided cfg table ∨
      (((masked cfg table n picks).map contOf)[k]? = some (some tid) ∧
        tid ∉ (visualDecided cfg table).filterMap (·.2)) := by
    intro k v hk
    obtain ⟨j', hd, _⟩ | ⟨hd, _⟩ := cont_cases cfg st scene e n table picks h k tid v hk
    · exact Or.inl (decision_mem cfg table k j' _ hd)
    · obtain ⟨_, _, _, _, _, hex⟩ := hP.1 k tid v hk hd
      exact Or.inr ⟨masked_cont cfg table n picks hlen k tid v hk hd, hex⟩
  rcases claim i v1 hi with ai | ⟨mi, xi⟩ <;> rcases claim j v2 hj with aj | ⟨mj, xj⟩
  · exact congrArg Prod.fst
      (filterMap_nodup_inj (·.2) _ (C12_one_winner cfg table) (i, some tid) (j, some tid) tid ai aj rfl rfl)
  · exact absurd (awarded i ai) xj
  · exact absurd (awarded j aj) xi
  · exact filterMap_nodup_index id _ hP.2.1 i j tid (by rw [mi]; rfl) (by rw [mj]; rfl)

/-! ### non-vacuity: two detections claim track 7 by appearance; the heavier claim wins, the loser is
decided "new track" and is not offered to the positional stage -/
def exCfg : Cfg := { maxIdle := 5, histLen := 3, batchIds := false, thr := 300000, visual := true, maxObs := 3, minVotes := 1 }
def exTable : List VEntry := [⟨0, 7, some 500000, some (1/10)⟩, ⟨1, 7, some 900000, some (3/10)⟩, ⟨2, 8, some 400000, none⟩]

example : visualDecided exCfg exTable = [(0, some 7), (1, none)] ∧
    positionalRest [(0, some 7), (1, none)] exTable = [⟨2, 8, 400000⟩] := by
  constructor
  · unfold visualDecided bestfitAll
    rw [mergeSort_of_pairwise (by decide +kernel)]
    decide +kernel
  · decide +kernel

end SimVerif.C12
