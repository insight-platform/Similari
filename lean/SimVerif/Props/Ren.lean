import SimVerif.Lemmas.TrackerScene
import SimVerif.Lemmas.AssignRename
import Mathlib.Data.List.GetD
/-!
# Scene jobs under renaming of track ids (one step of `Props/Hist.lean`: `C04_projection`, `C06_refines_simple`)
Model: `SimVerif.Tracker`, `SimVerif.AssignX`.

Two trackers hold "the same" tracks of a selected set of scenes, but under different ids (`ρ` maps
the ids of tracker A to those of tracker B). Then a scene job of a selected scene that succeeds for A, offered
to B with the distance table and the choice renamed by `ρ`, succeeds for B with the renamed records, and the two
trackers still hold the same tracks under `ρ` (`scene_job_rename`); that a job B accepts is one A accepts is not
stated. Only the id discipline (`cfg.batchIds`) may differ between A and B.
-/
namespace SimVerif.Ren
open SimVerif.Tracker List

def renEntry (ρ : Nat → Nat) (x : Entry) : Entry := { x with tid := ρ x.tid }
-- the same constant as `C01.freshIds`, by `freshIds_eq`; kept under the name it was first given (DESIGN 14.16)
def freshIds (picks : List Pick) : List Nat :=
  picks.filterMap (fun p => match p with | .fresh id => some id | _ => none)

def SameButIds (cA cB : Cfg) : Prop :=
  cA.maxIdle = cB.maxIdle ∧ cA.histLen = cB.histLen ∧ cA.thr = cB.thr ∧ cA.visual = cB.visual ∧
  cA.maxObs = cB.maxObs ∧ cA.minVotes = cB.minVotes

/-- unexpired tracks of the selected scenes, in store order -/
def view (cfg : Cfg) (sel : Nat → Bool) (st : St) : List Trk :=
  st.live.filter (fun t => sel t.scene && !expired cfg st t)

/-- B holds, under `ρ`, the unexpired tracks A holds for the selected scenes (same order), the selected
scenes have the same epochs, ids are unique on both sides and `ρ` is injective on A's ids -/
structure Rel (cA cB : Cfg) (ρ : Nat → Nat) (sel : Nat → Bool) (a b : St) : Prop where
  epochs : ∀ s, sel s = true → epochOf a s = epochOf b s
  tracks : view cB sel b = (view cA sel a).map (renTrk ρ)
  nodupA : (a.live.map (·.id)).Nodup
  nodupB : (b.live.map (·.id)).Nodup
  inj : ∀ x ∈ a.live, ∀ y ∈ a.live, ρ x.id = ρ y.id → x.id = y.id

theorem freshIds_eq (picks : List Pick) : C01.freshIds picks = freshIds picks := rfl

theorem renTrk_scene (ρ : Nat → Nat) (t : Trk) : (renTrk ρ t).scene = t.scene := rfl
theorem renTrk_lastUpd (ρ : Nat → Nat) (t : Trk) : (renTrk ρ t).lastUpd = t.lastUpd := rfl

theorem sameButIds_refl (cfg : Cfg) : SameButIds cfg cfg := ⟨rfl, rfl, rfl, rfl, rfl, rfl⟩

theorem rel_empty (cA cB : Cfg) (ρ : Nat → Nat) (sel : Nat → Bool) : Rel cA cB ρ sel {} {} :=
  ⟨fun _ _ => rfl, rfl, nodup_nil, nodup_nil, fun _ hx => absurd hx not_mem_nil⟩

def vq (cfg : Cfg) (sel : Nat → Bool) (st : St) (t : Trk) : Bool := sel t.scene && !expired cfg st t

theorem view_eq (cfg : Cfg) (sel : Nat → Bool) (st : St) : view cfg sel st = st.live.filter (vq cfg sel st) := rfl

theorem vq_ren (cfg : Cfg) (sel : Nat → Bool) (st : St) (ρ : Nat → Nat) (t : Trk) :
    vq cfg sel st (renTrk ρ t) = vq cfg sel st t := rfl

/-- `vq` reads the configuration through `maxIdle` and the state through the epochs of the selected scenes -/
theorem vq_congr (cA cB : Cfg) (hm : cA.maxIdle = cB.maxIdle) (sel : Nat → Bool) (a b : St)
    (hep : ∀ s, sel s = true → epochOf a s = epochOf b s) : vq cB sel b = vq cA sel a := by
  funext t
  unfold vq
  cases hs : sel t.scene with
  | false => rfl
  | true =>
    unfold expired
    rw [hep _ hs, hm]

/-- once the scene has its epoch `e`, its tracks admissible at `e` are in the view … -/
theorem vq_of_admissible (cfg : Cfg) (sel : Nat → Bool) (st : St) (scene e : Nat) (hs : sel scene = true) (t : Trk)
    (h1 : t.scene = scene) (h2 : e - t.lastUpd ≤ cfg.maxIdle) : vq cfg sel (setEpoch st scene e) t = true := by
  show (sel t.scene && !expired cfg (setEpoch st scene e) t) = true
  rw [unexpired_setEpoch_of_gate cfg st scene e t h1 h2, h1, hs]
  rfl

/-- … and the view has only shrunk: a later epoch expires more -/
theorem vq_of_setEpoch (cfg : Cfg) (sel : Nat → Bool) (st : St) (scene e : Nat) (hle : epochOf st scene ≤ e) (t : Trk)
    (h : vq cfg sel (setEpoch st scene e) t = true) : vq cfg sel st t = true := by
  unfold vq at h ⊢
  rw [Bool.and_eq_true] at h ⊢
  exact ⟨h.1, unexpired_of_later_epoch cfg st scene e hle t h.2⟩

/-- `Rel` reads both states through `live` and `epochs` only -/
theorem Rel.congr {cA cB : Cfg} {ρ : Nat → Nat} {sel : Nat → Bool} {a b a' b' : St} (h : Rel cA cB ρ sel a b)
    (hla : a'.live = a.live) (hea : a'.epochs = a.epochs) (hlb : b'.live = b.live) (heb : b'.epochs = b.epochs) :
    Rel cA cB ρ sel a' b' where
  epochs := fun s hs => by rw [epochOf_congr a' a hea, epochOf_congr b' b heb]; exact h.epochs s hs
  tracks := by
    unfold view
    rw [hla, hlb, expired_congr cA a' a hea, expired_congr cB b' b heb]
    exact h.tracks
  nodupA := hla ▸ h.nodupA
  nodupB := hlb ▸ h.nodupB
  inj := hla ▸ h.inj

theorem view_collect (cfg : Cfg) (sel : Nat → Bool) (st : St) : view cfg sel (collect cfg st) = view cfg sel st :=
  (ListFacts.filter_filter_of_imp (fun t => !expired cfg st t) _ st.live fun _ h => (Bool.and_eq_true_iff.mp h).2).symm

theorem Rel.collectA {cA cB : Cfg} {ρ : Nat → Nat} {sel : Nat → Bool} {a b : St} (h : Rel cA cB ρ sel a b) :
    Rel cA cB ρ sel (collect cA a) b where
  epochs := h.epochs
  tracks := by rw [view_collect]; exact h.tracks
  nodupA := (h.nodupA).sublist ((filter_sublist (l := a.live)).map _)
  nodupB := h.nodupB
  inj := fun x hx y hy => h.inj x (mem_filter.mp hx).1 y (mem_filter.mp hy).1

theorem Rel.collectB {cA cB : Cfg} {ρ : Nat → Nat} {sel : Nat → Bool} {a b : St} (h : Rel cA cB ρ sel a b) :
    Rel cA cB ρ sel a (collect cB b) where
  epochs := h.epochs
  tracks := by rw [view_collect]; exact h.tracks
  nodupA := h.nodupA
  nodupB := (h.nodupB).sublist ((filter_sublist (l := b.live)).map _)
  inj := h.inj

theorem Rel.awStepA {cA cB : Cfg} {ρ : Nat → Nat} {sel : Nat → Bool} {a b : St} (h : Rel cA cB ρ sel a b) :
    Rel cA cB ρ sel (awStep cA a) b := by
  rcases awStep_eq cA a with e | e <;> rw [e]
  · exact h.collectA.congr rfl rfl rfl rfl
  · exact h.congr rfl rfl rfl rfl

theorem Rel.awStepB {cA cB : Cfg} {ρ : Nat → Nat} {sel : Nat → Bool} {a b : St} (h : Rel cA cB ρ sel a b) :
    Rel cA cB ρ sel a (awStep cB b) := by
  rcases awStep_eq cB b with e | e <;> rw [e]
  · exact h.collectB.congr rfl rfl rfl rfl
  · exact h.congr rfl rfl rfl rfl

theorem freshIds_ren (ρ : Nat → Nat) (picks : List Pick) : freshIds (picks.map (renPick ρ)) = (freshIds picks).map ρ := by
  induction picks with
  | nil => rfl
  | cons p ps ih =>
    cases p with
    | cont tid vis => exact ih
    | fresh id =>
      show ρ id :: freshIds (ps.map (renPick ρ)) = ρ id :: (freshIds ps).map ρ
      rw [ih]

theorem conts_ren (ρ : Nat → Nat) (picks : List Pick) :
    (picks.map (renPick ρ)).map contOf = (picks.map contOf).map (Option.map ρ) := by
  rw [map_map, map_map]
  apply map_congr_left
  intro p _
  cases p <;> rfl

theorem esOf_ren (ρ : Nat → Nat) (table : List Entry) :
    esOf (table.map (renEntry ρ)) = (esOf table).map (RenA.renE ρ) := by
  unfold esOf
  rw [map_map, map_map]
  rfl

theorem conts_filterMap_ren (ρ : Nat → Nat) (picks : List Pick) :
    ((picks.map (renPick ρ)).map contOf).filterMap id = ((picks.map contOf).filterMap id).map ρ := by
  rw [conts_ren, filterMap_map, map_filterMap]
  rfl

theorem validChoice_ren (cA cB : Cfg) (ht : cA.thr = cB.thr) (ρ : Nat → Nat) (a b : St) (scene e n : Nat)
    (table : List Entry) (picks : List Pick)
    (hentry : ∀ x ∈ table, entryOk cA a scene e x = true → entryOk cB b scene e (renEntry ρ x) = true)
    (hinj : ∀ x ∈ a.live.map (·.id), ∀ y ∈ a.live.map (·.id), ρ x = ρ y → x = y)
    (hv : validChoice cA a scene e n table picks = true) :
    validChoice cB b scene e n (table.map (renEntry ρ)) (picks.map (renPick ρ)) = true := by
  have live_of : ∀ {tid t}, findLive a tid = some t → tid ∈ a.live.map (·.id) := fun hf =>
    findLive_id _ _ _ hf ▸ mem_map_of_mem (findLive_mem _ _ _ hf)
  have hcl : ∀ tid ∈ (picks.map contOf).filterMap id, tid ∈ a.live.map (·.id) := fun tid htid =>
    live_of (valid_conts_of_mem hv htid).choose_spec.1
  rw [validChoice_iff] at hv ⊢
  obtain ⟨v1, v2, v3, v4, v5⟩ := hv
  -- every track of the table, and every continued track, is live in A, where `ρ` is injective
  have hρ : ∀ x ∈ AssignX.tracks (esOf table), ∀ y ∈ AssignX.tracks (esOf table), ρ x = ρ y → x = y := by
    have htl : ∀ t ∈ AssignX.tracks (esOf table), t ∈ a.live.map (·.id) := by
      intro t ht
      obtain ⟨x, hx, rfl⟩ := (AssignX.mem_tracks _ t).mp ht
      obtain ⟨x0, hx0, rfl⟩ := mem_map.mp hx
      obtain ⟨t, hf, _⟩ := (entryOk_iff cA a scene e x0).mp (v2 x0 hx0)
      exact live_of hf
    exact fun x hx y hy => hinj x (htl x hx) y (htl y hy)
  refine ⟨by rw [length_map]; exact v1, ?_, ?_, ?_, ?_⟩
  · intro x hx
    obtain ⟨x0, hx0, rfl⟩ := mem_map.mp hx
    exact hentry x0 hx0 (v2 x0 hx0)
  · intro i tid' hi
    rw [conts_ren, getElem?_map, Option.map_eq_some_iff] at hi
    obtain ⟨_ | tid, hi, ⟨⟩⟩ := hi
    obtain ⟨x, hx, h1, h2, h3⟩ := v3 i tid hi
    exact ⟨renEntry ρ x, mem_map_of_mem hx, h1, congrArg ρ h2, ht ▸ h3⟩
  · rw [conts_filterMap_ren]
    exact Nodup.map_on (fun x hx y hy => hinj x (hcl x hx) y (hcl y hy)) v4
  · rw [esOf_ren, AssignX.queries_ren, AssignX.bestOf_ren ρ _ _ hρ, ← ht, ← v5, conts_ren]
    have hfun : ∀ q, ((picks.map contOf).map (Option.map ρ)).getD (q - 1) none =
        Option.map ρ ((picks.map contOf).getD (q - 1) none) := fun q => List.getD_map _ none (Option.map ρ)
    simp only [hfun]
    -- a continued track has an entry in the table (the gate clause), so it is one of the table's tracks
    refine AssignX.objective_fn_ren ρ _ hρ _ _ fun q t hq => ?_
    rw [List.getD_eq_getElem?_getD, Option.getD_eq_iff] at hq
    obtain ⟨x, hx, _, rfl, _⟩ := v3 (q - 1) t (hq.resolve_right fun h => by cases h.2)
    exact (AssignX.mem_tracks _ _).mpr ⟨_, mem_map_of_mem hx, rfl⟩

/-- `Tracker.sceneStep_view_ren` for `validChoice`, where the table is renamed with the picks.
`Q`: any property renaming cannot see that every track the step may touch has. The two id disciplines enter only
through `hfB`. -/
theorem predictScene_view_ren (cA cB : Cfg) (hc : SameButIds cA cB) (ρ : Nat → Nat) (scene : Nat) (Q : Trk → Bool) (a b : St)
    (he : epochOf a scene = epochOf b scene) (hQr : ∀ t, Q (renTrk ρ t) = Q t)
    (hQ : ∀ t : Trk, t.scene = scene → epochOf a scene + 1 - t.lastUpd ≤ cA.maxIdle → Q t = true)
    (hrel : b.live.filter Q = (a.live.filter Q).map (renTrk ρ))
    (hna : (a.live.map (·.id)).Nodup) (hnb : (b.live.map (·.id)).Nodup)
    (dets : List Det) (table : List Entry) (picks : List Pick) (lo hi lo' hi' : Nat) (a' : St) (recs : List Rec)
    (hA : predictScene cA a scene dets table picks lo hi = some (a', recs))
    (hinj : ∀ x ∈ a.live.map (·.id) ++ freshIds picks, ∀ y ∈ a.live.map (·.id) ++ freshIds picks, ρ x = ρ y → x = y)
    (hfB : freshIdsOk cB (setEpoch b scene (epochOf b scene + 1)) lo' hi' (picks.map (renPick ρ)) = true) :
    ∃ b', predictScene cB b scene dets (table.map (renEntry ρ)) (picks.map (renPick ρ)) lo' hi' =
        some (b', recs.map (renRec ρ)) ∧ b'.live.filter Q = (a'.live.filter Q).map (renTrk ρ) := by
  obtain ⟨hm, hh, ht, hv, ho, _⟩ := hc
  refine sceneStep_view_ren cA cB hv ho hh ρ scene Q ViewRel.eq
    (validA := fun s e => validChoice cA s scene e dets.length table picks)
    (validB := fun s e => validChoice cB s scene e dets.length (table.map (renEntry ρ)) (picks.map (renPick ρ)))
    (fun _ _ hvA => valid_conts hvA) a b he hQr hQ hrel hna hnb hinj ?_ lo hi lo' hi' hfB a' recs hA
  -- validity transfers along the lookup: an admissible entry points at a `Q`-track, which B holds renamed
  intro hfind hvA
  refine validChoice_ren cA cB ht ρ _ _ scene _ dets.length table picks (fun x _ hx => ?_)
    (fun x hx y hy => hinj x (mem_append_left _ hx) y (mem_append_left _ hy)) hvA
  obtain ⟨t, hf, hs, hl⟩ := (entryOk_iff _ _ _ _ _).mp hx
  exact (entryOk_iff _ _ _ _ _).mpr ⟨renTrk ρ t, hfind x.tid t hf (hQ t hs hl), hs, hm ▸ hl⟩

/-- **One scene job under renaming.** `hndA'` holds along every run: `predictScene_nodup` (batch tracker),
`Hist.predict_ids` (simple tracker). -/
theorem scene_job_rename (cA cB : Cfg) (hc : SameButIds cA cB) (ρ : Nat → Nat) (sel : Nat → Bool)
    (a b : St) (h : Rel cA cB ρ sel a b) (scene : Nat) (hs : sel scene = true)
    (dets : List Det) (table : List Entry) (picks : List Pick) (lo hi lo' hi' : Nat)
    (a' : St) (recs : List Rec)
    (hA : predictScene cA a scene dets table picks lo hi = some (a', recs))
    (hndA' : (a'.live.map (·.id)).Nodup)
    -- the renamed fresh ids are acceptable to B's id discipline, and `ρ` keeps them apart from A's ids
    (hfB : freshIdsOk cB (setEpoch b scene (epochOf b scene + 1)) lo' hi' (picks.map (renPick ρ)) = true)
    (hinj : ∀ x ∈ a.live.map (·.id) ++ freshIds picks, ∀ y ∈ a.live.map (·.id) ++ freshIds picks, ρ x = ρ y → x = y)
    (hnew : ∀ id ∈ freshIds picks, ∀ t ∈ b.live, t.id ≠ ρ id) :
    ∃ b', predictScene cB b scene dets (table.map (renEntry ρ)) (picks.map (renPick ρ)) lo' hi' =
        some (b', recs.map (renRec ρ)) ∧ Rel cA cB ρ sel a' b' := by
  have hm := hc.1
  -- `Q`: the selected tracks unexpired once the scene has its next epoch; a part of the view of `h.tracks`
  generalize hQdef : vq cA sel (setEpoch a scene (epochOf a scene + 1)) = Q
  have hQr : ∀ t, Q (renTrk ρ t) = Q t := fun t => hQdef ▸ vq_ren cA sel _ ρ t
  have hQimp : ∀ t, Q t = true → vq cA sel a t = true := fun t =>
    hQdef ▸ vq_of_setEpoch cA sel a scene _ (Nat.le_succ _) t
  have hrel0 : b.live.filter Q = (a.live.filter Q).map (renTrk ρ) := by
    have ht0 := h.tracks
    rw [view_eq, view_eq, vq_congr cA cB hm sel a b h.epochs] at ht0
    rw [ListFacts.filter_filter_of_imp (vq cA sel a) Q b.live hQimp, ht0, filter_map, ListFacts.filter_filter_of_imp (vq cA sel a) Q a.live hQimp]
    congr 1
    exact filter_congr fun t _ => hQr t
  obtain ⟨b', hb', hrel'⟩ := predictScene_view_ren cA cB hc ρ scene Q a b (h.epochs scene hs) hQr
    (fun t h1 h2 => hQdef ▸ vq_of_admissible cA sel a scene _ hs t h1 h2) hrel0 h.nodupA h.nodupB
    dets table picks lo hi lo' hi' a' recs hA hinj hfB
  have hepA : ∀ s, epochOf (setEpoch a scene (epochOf a scene + 1)) s = epochOf a' s := fun s => by
    rw [predictScene_epoch hA s, epochOf_setEpoch]
  have hep' : ∀ s, sel s = true → epochOf a' s = epochOf b' s := fun s hsel => by
    rw [predictScene_epoch hA s, predictScene_epoch hb' s, h.epochs scene hs, h.epochs s hsel]
  have hidsA := predictScene_liveIds hA
  refine ⟨b', hb', hep', ?_, hndA', ?_, ?_⟩
  · rw [view_eq, view_eq, vq_congr cA cB hm sel a' b' hep',
      vq_congr cA cA rfl sel _ a' (fun s _ => hepA s), hQdef]
    exact hrel'
  · -- B's new ids are the images of A's new ones, which `hnew` keeps off B's old ones
    rw [predictScene_liveIds hb', freshIds_eq, freshIds_ren, nodup_append]
    have hnaF : (a.live.map (·.id) ++ freshIds picks).Nodup := hidsA ▸ hndA'
    refine ⟨h.nodupB, Nodup.map_on (fun x hx y hy => hinj x (mem_append_right _ hx) y (mem_append_right _ hy))
      hnaF.of_append_right, forall_mem_map.mpr fun t htm => forall_mem_map.mpr fun id hid => hnew id hid t htm⟩
  · exact fun x hx y hy => hinj _ (hidsA ▸ mem_map_of_mem hx) _ (hidsA ▸ mem_map_of_mem hy)

/-- a job of a scene that is NOT selected leaves the relation alone (B does nothing) -/
theorem other_scene_job (cA cB : Cfg) (ρ : Nat → Nat) (sel : Nat → Bool)
    (a b : St) (h : Rel cA cB ρ sel a b) (scene : Nat) (hs : sel scene = false)
    (dets : List Det) (table : List Entry) (picks : List Pick) (lo hi : Nat)
    (a' : St) (recs : List Rec)
    (hA : predictScene cA a scene dets table picks lo hi = some (a', recs))
    (hndA' : (a'.live.map (·.id)).Nodup)
    (hinj : ∀ x ∈ a.live.map (·.id) ++ freshIds picks, ∀ y ∈ a.live.map (·.id) ++ freshIds picks, ρ x = ρ y → x = y) :
    Rel cA cB ρ sel a' b := by
  have hep : ∀ s, sel s = true → epochOf a' s = epochOf a s := fun s hsel => by
    rw [predictScene_epoch hA s, if_neg (by rintro rfl; rw [hs] at hsel; cases hsel)]
  have hq : vq cA sel a' = vq cA sel a := vq_congr cA cA rfl sel a a' (fun s hsel => (hep s hsel).symm)
  have hids := predictScene_liveIds hA
  refine ⟨fun s hsel => (hep s hsel).trans (h.epochs s hsel), ?_, hndA', h.nodupB, ?_⟩
  · rw [h.tracks, view_eq, view_eq, hq]
    exact congrArg _ (predictScene_frame (vq cA sel a) (fun t ht => by unfold vq; rw [ht, hs]; rfl) h.nodupA hA).symm
  · exact fun x hx y hy => hinj _ (hids ▸ mem_map_of_mem hx) _ (hids ▸ mem_map_of_mem hy)

theorem rel_collect (cA cB : Cfg) (ρ : Nat → Nat) (sel : Nat → Bool) (a b : St) (h : Rel cA cB ρ sel a b) :
    Rel cA cB ρ sel (collect cA a) b ∧ Rel cA cB ρ sel a (collect cB b) ∧
    Rel cA cB ρ sel (awStep cA a) b ∧ Rel cA cB ρ sel a (awStep cB b) :=
  ⟨h.collectA, h.collectB, h.awStepA, h.awStepB⟩

end SimVerif.Ren
