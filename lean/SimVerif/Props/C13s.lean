import SimVerif.Props.C13
import SimVerif.Tie.Gallery
import SimVerif.Tie.VMetric
/-!
# C13 at source level

The gallery theorems of `Props/C13.lean` for the generated gallery maintenance of `VisualMetric::optimize`
(`Gen.L.optimize_tail`, equal to `galleryUpdate` / `featCount` by `Tie/Gallery.lean`) and for the generated collect gate
(`Gen.K.v_collect_gate`).
-/
namespace SimVerif.C13
open SimVerif.Tracker SimVerif.Tie SimVerif.Gen.L

theorem C13_source_bound_count (maxObs : Nat) (h1 : 1 ≤ maxObs) (old : List GE) (new : GE) (c : Nat) (h : old.length ≤ maxObs) :
    let r := optimize_tail geFeature geDropBox (·.quality) maxObs old new c
    r.1.length ≤ maxObs ∧ r.2 = featCount r.1 := by
  rw [tie_gallery_update]
  exact ⟨C13_bound maxObs h1 old new h, rfl⟩

/-- the newest observation is first and is the only one that keeps its box; every other entry is a stored feature of the
previous gallery -/
theorem C13_source_survivors (maxObs : Nat) (old : List GE) (new : GE) (c : Nat) :
    let g := (optimize_tail geFeature geDropBox (·.quality) maxObs old new c).1
    g.head? = some new ∧ ∀ e ∈ g.tail, e.box = false ∧ e.feat ≠ 0 ∧ ∃ g0 ∈ old, g0.feat = e.feat ∧ g0.quality = e.quality := by
  rw [tie_gallery_update]
  exact C13_survivors maxObs old new

/-- when the gallery is full the entry the source drops is the last of the quality-sorted stored features: of minimal quality -/
theorem C13_source_evict (maxObs : Nat) (old : List GE) (hfull : (keptSorted old).length ≥ maxObs) (hne : keptSorted old ≠ []) :
    optimize_observations geFeature geDropBox (·.quality) maxObs old = (keptSorted old).dropLast ∧
    ∀ g ∈ (keptSorted old).dropLast, ((keptSorted old).getLast hne).quality ≤ g.quality := by
  refine ⟨?_, C13_evict maxObs old hfull hne⟩
  rw [tie_optimize_observations]
  exact if_pos hfull

/-- **the collect rule** (source level): the feature of a detection that continues a track is stored only if the detection
meets the *collect* thresholds; a track's first observation keeps its feature unconditionally -/
theorem C13_source_collect {α φ : Type} [Field α] [LinearOrder α] (minArea qCollect shareCollect : α) (b : Geom.UBox α) (q : α)
    (share : Option α) (feat : Option φ) :
    Gen.K.v_collect_gate minArea qCollect shareCollect false b q share feat = feat ∧
    Gen.K.v_collect_gate minArea qCollect shareCollect true b q share feat =
      (if VisualMetric.featureCanBeUsed minArea (Geom.area b) q qCollect share shareCollect then feat else none) := by
  constructor
  · rw [tie_v_collect_gate]; simp
  · rw [tie_v_collect_gate]
    cases VisualMetric.featureCanBeUsed minArea (Geom.area b) q qCollect share shareCollect <;> simp

end SimVerif.C13
