import SimVerif.Props.C01
import SimVerif.Lemmas.TrackerScene
/-!
# C03 — track lifecycle: conservation, exact expiry, wasted once, GC timing

Model: `SimVerif.Tracker` (epochs, `expired`, `collect` = `auto_waste`, countdown `awStep`, `wastedOp`,
`idle`, `clearWasted`, statistics). For every distance table and every valid choice.
-/
namespace SimVerif.C03
open SimVerif.Tracker SimVerif.C01 List

/-- **Exact expiry**: a track is expired exactly when its scene's epoch exceeds its last update
epoch by more than `max_idle_epochs`. -/
theorem C03_expiry (cfg : Cfg) (st : St) (t : Trk) :
    expired cfg st t = true ↔ t.lastUpd + cfg.maxIdle < epochOf st t.scene := by
  simp [expired]

/-- **Epochs**: `predict` advances its own scene by one (empty call or not), `skip` by `n`; other scenes
are untouched by either. (That collecting changes no epoch is `Tracker.epochOf_collect`, not a conjunct.) -/
theorem C03_epochs (cfg : Cfg) (st : St) (scene n : Nat) :
    (epochOf (skip cfg st scene n) scene = epochOf st scene + n ∧
     ∀ s, s ≠ scene → epochOf (skip cfg st scene n) s = epochOf st s) ∧
    (∀ st' dets table picks lo hi recs,
      predictScene cfg st scene dets table picks lo hi = some (st', recs) →
        epochOf st' scene = epochOf st scene + 1 ∧ ∀ s, s ≠ scene → epochOf st' s = epochOf st s) := by
  refine ⟨⟨?_, ?_⟩, ?_⟩
  · unfold skip; rw [epochOf_collect, epochOf_setEpoch, if_pos rfl]
  · intro s hs; unfold skip; rw [epochOf_collect, epochOf_setEpoch, if_neg hs]
  · intro st' dets table picks lo hi recs h
    have he := predictScene_epoch h
    exact ⟨by rw [he, if_pos rfl], fun s hs => by rw [he, if_neg hs]⟩

/-- **An expired track is never continued**: whatever the table and the (valid) choice, every
continued track is unexpired at the call's epoch. -/
theorem C03_never_continued (cfg : Cfg) (st st' : St) (scene : Nat) (dets : List Det) (table : List Entry)
    (picks : List Pick) (lo hi : Nat) (recs : List Rec)
    (h : predictScene cfg st scene dets table picks lo hi = some (st', recs)) (tid : Nat) (vis : Bool)
    (hp : Pick.cont tid vis ∈ picks) :
    ∃ t, findLive st tid = some t ∧ expired cfg (setEpoch st scene (epochOf st scene + 1)) t = false := by
  obtain ⟨hv, _, _⟩ := predictScene_parts h
  obtain ⟨t, ht, hs, hg⟩ := valid_conts hv tid vis hp
  exact ⟨t, ht, unexpired_setEpoch_of_gate cfg st scene _ t hs hg⟩

/-- **Conservation**: collecting, handing out and clearing only move ids between places — nothing is
lost or duplicated; a predict adds exactly the ids of the tracks it starts. -/
theorem C03_conservation (cfg : Cfg) (st : St) :
    allIds (collect cfg st) ~ allIds st ∧
    allIds (awStep cfg st) ~ allIds st ∧
    (∀ s n, allIds (skip cfg st s n) ~ allIds st) ∧
    allIds (wastedOp cfg st).1 ~ allIds st ∧
    allIds (clearWasted st) ~ allIds st ∧
    (∀ p, allIds (setAutoWaste st p) = allIds st) ∧
    (∀ st' scene dets table picks lo hi recs,
      predictScene cfg st scene dets table picks lo hi = some (st', recs) →
        allIds st' ~ allIds st ++ freshIds picks) := by
  refine ⟨allIds_collect cfg st, allIds_awStep cfg st, allIds_skip cfg st, allIds_wastedOp cfg st, allIds_clearWasted st,
    allIds_setAutoWaste st, fun st' scene dets table picks lo hi recs h => ?_⟩
  exact allIds_applyPicks (st := setEpoch st scene (epochOf st scene + 1))
    (predictScene_parts h).2.2

/-- **In exactly one place** (simple trackers): with unique ids bounded by the counter — true
initially — a predict keeps all ids pairwise distinct. -/
theorem C03_one_place (cfg : Cfg) (hb : cfg.batchIds = false) (st st' : St) (hinv : IdsBelow st)
    (hnd : (allIds st).Nodup) (scene : Nat) (dets : List Det) (table : List Entry) (picks : List Pick) (recs : List Rec)
    (h : predictScene cfg st scene dets table picks 0 0 = some (st', recs)) : (allIds st').Nodup := by
  obtain ⟨_, hf, hap⟩ := predictScene_parts h
  obtain ⟨hfnd, hfb⟩ := consecutive_ids (n := st.nextId) ((freshIdsOk_simple_iff cfg hb _ 0 0 picks).mp hf)
  rw [(allIds_applyPicks hap).nodup_iff, nodup_append]
  refine ⟨hnd, hfnd, fun a ha b hb' hab => ?_⟩
  have := (idsBelow_iff st).mp hinv a ha
  have := (hfb b hb').1
  omega

/-- **Wasted once**: the ids handed out by one `wasted()` call were never handed out before (ids are
unique), and they are all recorded as handed — so they can never be handed out again. -/
theorem C03_wasted_once (cfg : Cfg) (st : St) (hnd : (allIds st).Nodup) :
    (∀ t ∈ (wastedOp cfg st).2, t.id ∉ st.handed ∧ t.id ∈ (wastedOp cfg st).1.handed) ∧
    (wastedOp cfg st).1.wasted = [] ∧
    (∀ t ∈ (wastedOp cfg st).2, t ∈ st.wasted ∨ (t ∈ st.live ∧ expired cfg st t = true)) := by
  have hc := ((allIds_collect cfg st).nodup_iff).mpr hnd
  refine ⟨?_, rfl, ?_⟩
  · intro t ht
    simp only [wastedOp] at ht ⊢
    refine ⟨?_, mem_append_right _ (mem_map_of_mem ht)⟩
    intro hh
    -- t.id would occur twice in allIds (collect st): once in wasted, once in handed
    unfold allIds at hc
    have h1 : t.id ∈ map (·.id) (collect cfg st).live ++ map (·.id) (collect cfg st).wasted :=
      mem_append_right _ (mem_map_of_mem ht)
    have h2 : t.id ∈ (collect cfg st).handed := hh
    rw [append_assoc, append_assoc, ← append_assoc] at hc
    have := (nodup_append.mp hc).2.2 _ h1 _ (mem_append_left _ h2)
    exact this rfl
  · intro t ht
    simp only [wastedOp, collect, mem_append, mem_filter] at ht
    rcases ht with ht | ⟨ht, he⟩
    · exact Or.inl ht
    · exact Or.inr ⟨ht, he⟩

theorem expired_collect (cfg : Cfg) (st : St) (t : Trk) : expired cfg (collect cfg st) t = expired cfg st t := rfl

/-- **GC timing does not show in `idle_tracks`**: the answer is the same whether or not the periodic
collection has already run — it lists exactly the unexpired tracks of the scene not updated in the
scene's current epoch. -/
theorem C03_idle (cfg : Cfg) (st : St) (scene : Nat) :
    idle cfg (collect cfg st) scene = idle cfg st scene ∧
    ∀ t, t ∈ idle cfg st scene ↔
      t ∈ st.live ∧ t.scene = scene ∧ ¬ (t.lastUpd + cfg.maxIdle < epochOf st t.scene) ∧ t.lastUpd ≠ epochOf st scene := by
  constructor
  · show (st.live.filter (fun t => !expired cfg st t)).filter
        (fun t => t.scene == scene && !expired cfg (collect cfg st) t && !(t.lastUpd == epochOf (collect cfg st) scene)) = _
    simp only [expired_collect, epochOf_collect, filter_filter]
    unfold idle
    apply filter_congr
    intro t _
    cases expired cfg st t <;> simp
  · intro t
    simp only [idle, mem_filter, Bool.and_eq_true, beq_iff_eq, Bool.not_eq_true', expired, decide_eq_false_iff_not,
      beq_eq_false_iff_ne, and_assoc]

/-- **`wasted()` does not depend on GC timing either**: it collects first. -/
theorem C03_wasted_gc (cfg : Cfg) (st : St) : wastedOp cfg (collect cfg st) = wastedOp cfg st := by
  unfold wastedOp; rw [collect_idem]

/-- **Statistics**: the per-shard counts add up to the number of tracks held (`n > 0` shards). -/
theorem C03_stats (n : Nat) (hn : 0 < n) (l : List Trk) : (shardCounts n l).sum = l.length := by
  have := (ListFacts.buckets_perm (fun t : Trk => t.id % n) n l (fun _ _ => Nat.mod_lt _ hn)).length_eq
  rw [length_flatMap] at this
  exact this

/-! ### non-vacuity: a track expiring while still physically live, then handed out once -/
private def cfg0 : Cfg := { maxIdle := 1, histLen := 3, batchIds := false, thr := 300000 }
private def st0 : St := { epochs := [(0, 4)], live := [(Trk.simple 1 0 1 1 none [1]), (Trk.simple 2 0 4 2 none [2, 3])], nextId := 2 }
example : expired cfg0 st0 (Trk.simple 1 0 1 1 none [1]) = true := by decide
example : (idle cfg0 st0 0).map (·.id) = [] ∧ ((wastedOp cfg0 st0).2.map (·.id)) = [1] ∧
    ((wastedOp cfg0 (wastedOp cfg0 st0).1).2.map (·.id)) = [] := by decide

end SimVerif.C03
