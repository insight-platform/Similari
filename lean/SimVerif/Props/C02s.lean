import SimVerif.Tie.SortVoting
import SimVerif.Props.C02
/-!
# C02 at source level

For the cost matrix `SortVoting::winners` builds (`Tie/SortVoting.lean`: `svMatrix`, proved equal to `Assign.M thr W` on the
candidate rows and on the columns of the candidates and of the tracks named in the stream): **every** injective choice `σ` of
one such column per row that is of maximum total weight on that matrix decodes to a one-to-one association of candidates to
tracks in which every match is gated (`weight ≥ threshold`), and which is maximal among **all** one-to-one partial associations
when an unmatched candidate counts as the threshold. `σ` is a variable: the statement mentions neither `sort_voting_winners` nor
`kuhn_munkres`, it does not range over the `candidate_num + track_num` columns of the source's matrix, and that `winners`
returns the ids of `decode σ` is not stated.
-/
namespace SimVerif.C02
open SimVerif.Tie SimVerif.Gen.L SimVerif.Assign Finset

def srcTotal (quant : Rat → Int) (mult : Rat) (thr : Int) (cn : Nat) (ds : List SD)
    (σ : Fin cn → Col cn (absRun quant mult ds).ts.length) : Int :=
  ∑ i, svMatrix quant mult thr cn ds i.val (colIdx cn (σ i))

theorem srcTotal_eq (quant : Rat → Int) (mult : Rat) (thr : Int) (cn : Nat) (ds : List SD)
    (hok : okRun quant mult cn ⟨[], [], fun _ _ => 0⟩ ds) (σ : Fin cn → Col cn (absRun quant mult ds).ts.length) :
    srcTotal quant mult thr cn ds σ = total thr (Wfin (absRun quant mult ds) cn) σ := by
  unfold srcTotal total
  exact Finset.sum_congr rfl (fun i _ => tie_sort_voting_matrix quant mult thr cn ds hok i (σ i))

/-- **gated, one-to-one, maximum weight** — for every `σ` that is optimal on `svMatrix` among the injective choices of a candidate
or named-track column per row; `σ` is not tied to what `kuhn_munkres` returns -/
theorem C02_source_assignment (quant : Rat → Int) (mult : Rat) (thr : Int) (cn : Nat) (ds : List SD)
    (hok : okRun quant mult cn ⟨[], [], fun _ _ => 0⟩ ds) (hthr : 0 < thr)
    (σ : Fin cn → Col cn (absRun quant mult ds).ts.length) (hinj : Function.Injective σ)
    (hopt : ∀ τ : Fin cn → Col cn (absRun quant mult ds).ts.length, Function.Injective τ →
      srcTotal quant mult thr cn ds τ ≤ srcTotal quant mult thr cn ds σ) :
    InjOnSome (decode σ) ∧
    (∀ i k, decode σ i = some k → thr ≤ Wfin (absRun quant mult ds) cn i k) ∧
    (∀ m : Fin cn → Option (Fin (absRun quant mult ds).ts.length), InjOnSome m →
      obj thr (Wfin (absRun quant mult ds) cn) m ≤ obj thr (Wfin (absRun quant mult ds) cn) (decode σ)) := by
  have hIsOpt : IsOpt thr (Wfin (absRun quant mult ds) cn) σ :=
    ⟨hinj, fun τ hτ => by rw [← srcTotal_eq quant mult thr cn ds hok τ, ← srcTotal_eq quant mult thr cn ds hok σ]; exact hopt τ hτ⟩
  exact C02_optimal hthr hIsOpt

end SimVerif.C02
