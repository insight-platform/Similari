import SimVerif.Lemmas.TrackerScene
/-!
# C04 — scene isolation: scenes never interfere

Model: `SimVerif.Tracker`. For every distance table and every valid choice.
-/
namespace SimVerif.C04
open SimVerif.Tracker

/-- **A detection is never attached to a track of another scene**: every track continued by a valid
choice belongs to the call's scene (and is unexpired at the call's epoch). -/
theorem C04_no_cross (cfg : Cfg) (st st' : St) (scene : Nat) (dets : List Det) (table : List Entry)
    (picks : List Pick) (lo hi : Nat) (recs : List Rec)
    (h : predictScene cfg st scene dets table picks lo hi = some (st', recs)) :
    ∀ tid vis, Pick.cont tid vis ∈ picks → ∃ t, findLive st tid = some t ∧ t.scene = scene ∧
      ¬ (t.lastUpd + cfg.maxIdle < epochOf st scene + 1) := by
  obtain ⟨hv, _, _⟩ := predictScene_parts h
  intro tid vis hp
  obtain ⟨t, ht, hs, he⟩ := valid_conts hv tid vis hp
  exact ⟨t, ht, hs, by omega⟩

/-- **Frame**: a scene step keeps every track of every other scene, unchanged, among the live tracks, and does
not touch the epoch of any other scene, nor the wasted store (ids unique). The first conjunct is this inclusion
only; that the list of the other scenes' tracks is the same, order included, is `Tracker.predictScene_frame`. -/
theorem C04_frame (cfg : Cfg) (st st' : St) (hU : (st.live.map (·.id)).Nodup) (scene : Nat) (dets : List Det)
    (table : List Entry) (picks : List Pick) (lo hi : Nat) (recs : List Rec)
    (h : predictScene cfg st scene dets table picks lo hi = some (st', recs)) :
    (∀ t ∈ st.live, t.scene ≠ scene → t ∈ st'.live) ∧
    (∀ s, s ≠ scene → epochOf st' s = epochOf st s) ∧ st'.wasted = st.wasted := by
  refine ⟨fun t ht hs => ?_, fun s hs => ?_, (congrArg St.wasted (predictScene_rest h) :)⟩
  · have := predictScene_frame (fun t => !(t.scene == scene)) (fun t hs => by simp [hs]) hU h
    exact (List.mem_filter.mp (this ▸ List.mem_filter.mpr ⟨ht, by simpa using hs⟩)).1
  · rw [predictScene_epoch h s, if_neg hs]

def restrict (st : St) (scene : Nat) : St := { st with live := st.live.filter (fun t => t.scene == scene) }

/-- **Restriction**: whether a choice is valid for a call depends only on the tracks of the call's
own scene — the tracks of other scenes, however many and wherever they are, play no role. -/
theorem C04_valid_restrict (cfg : Cfg) (st : St) (hU : (st.live.map (·.id)).Nodup) (scene e n : Nat)
    (table : List Entry) (picks : List Pick) :
    validChoice cfg (restrict st scene) scene e n table picks = validChoice cfg st scene e n table picks := by
  -- `entryOk_view` for the view "of the scene": the restricted state holds the same tracks of the scene
  have hr : st.live.filter (fun t => t.scene == scene) = (restrict st scene).live.filter (fun t => t.scene == scene) := by
    simp [restrict, List.filter_filter]
  have hn : ((restrict st scene).live.map (·.id)).Nodup := hU.sublist (List.filter_sublist.map _)
  rw [validChoice_congr cfg _ _ scene e (entryOk_view ViewRel.eq cfg (fun t => t.scene == scene) (restrict st scene) st
    scene e (fun t hs _ => by simp [hs]) hr hn hU)]

private def cfg0 : Cfg := { maxIdle := 2, histLen := 3, batchIds := false, thr := 300000 }
private def st0 : St := { epochs := [(0, 1), (5, 1)], live := [(Trk.simple 1 0 1 1 none [1]), (Trk.simple 2 5 1 1 none [2])], nextId := 2 }
/-- a table entry pointing at the other scene's track makes the choice invalid -/
example : predictScene cfg0 st0 0 [(Det.simple 3 (none))] [⟨0, 2, 900000⟩] [.cont 2 false] 0 0 = none := by decide +kernel
example : (predictScene cfg0 st0 0 [(Det.simple 3 (none))] [⟨0, 1, 900000⟩] [.cont 1 false] 0 0).isSome = true := by decide +kernel

end SimVerif.C04
