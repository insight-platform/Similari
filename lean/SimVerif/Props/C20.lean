import SimVerif.Lemmas.Constraints
/-!
# C20 — spatio-temporal constraints are a pure, monotone filter (table level)

Model: `SimVerif.Constraints` (`add_constraints`, `validate` of
src/trackers/spatio_temporal_constraints.rs). Tracker-level statements (non-binding tables change
nothing; binding tables bound every attachment) are in `Props/C20b.lean`.
-/
namespace SimVerif.C20
open SimVerif.Constraints

/-- After any sequence of successful `add_constraints` calls (`calls`: most recent first) the table
is strictly sorted by gap and, for every gap, holds the limit configured **first** for that gap. -/
theorem C20_table (calls : List (List Entry)) (t : List Entry) (h : build calls = some t) :
    t.Pairwise (fun a b => a.1 < b.1) ∧
    ∀ g, t.find? (fun e => e.1 == g) = (calls.reverse.flatten).find? (fun e => e.1 == g) := by
  induction calls generalizing t with
  | nil => simp only [build, Option.some.injEq] at h; subst h; simp
  | cons c rest ih =>
    simp only [build] at h
    cases hb : build rest with
    | none => simp [hb] at h
    | some t' =>
      simp only [hb] at h
      obtain ⟨_, ih2⟩ := ih t' hb
      obtain ⟨h1, h2⟩ := addConstraints_spec t' c t h
      refine ⟨h1, fun g => ?_⟩
      rw [h2 g, List.find?_append, ih2 g]
      simp [List.find?_append]

theorem C20_lookup (t : List Entry) (hs : t.Pairwise (fun a b => a.1 < b.1)) (d : Nat) :
    (∀ e, limitFor t d = some e → e ∈ t ∧ d ≤ e.1 ∧ ∀ e' ∈ t, d ≤ e'.1 → e.1 ≤ e'.1) ∧
    (limitFor t d = none → ∀ e ∈ t, e.1 < d) := by
  unfold limitFor
  constructor
  · intro e he
    -- `e` is the first entry with `d ≤ gap`: those before it fail the test, those after it have larger gaps
    obtain ⟨hp, pre, post, rfl, hpre⟩ := List.find?_eq_some_iff_append.mp he
    simp only [ge_iff_le, decide_eq_true_eq] at hp
    refine ⟨by simp, hp, fun e' he' hd => ?_⟩
    rcases List.mem_append.mp he' with h | h
    · exact absurd hd (by simpa using hpre e' h)
    · rcases List.mem_cons.mp h with rfl | h
      · exact Nat.le_refl _
      · exact Nat.le_of_lt ((List.pairwise_cons.mp (List.pairwise_append.mp hs).2.1).1 e' h)
  · intro hn e he
    simpa using List.find?_eq_none.mp hn e he

theorem C20_admit_iff (t : List Entry) (d : Nat) (x : Rat) (hx : 0 ≤ x) :
    validate t d x = some (decide (∀ e, limitFor t d = some e → x ≤ e.2)) := by
  unfold validate
  rw [if_neg (Rat.not_lt.mpr hx)]
  cases limitFor t d <;> simp

theorem C20_monotone (t : List Entry) (d : Nat) (x₁ x₂ : Rat) (h0 : 0 ≤ x₁) (h : x₁ ≤ x₂)
    (hv : validate t d x₂ = some true) : validate t d x₁ = some true := by
  have h2 : 0 ≤ x₂ := Rat.le_trans h0 h
  rw [C20_admit_iff t d x₂ h2] at hv
  rw [C20_admit_iff t d x₁ h0]
  simp only [Option.some.injEq, decide_eq_true_eq] at hv ⊢
  exact fun e he => Rat.le_trans h (hv e he)

/-- the empty table admits every non-negative distance; `t`, `b` and `hv` enter only through `0 ≤ x` -/
theorem C20_filter (t : List Entry) (d : Nat) (x : Rat) (b : Bool) (hv : validate t d x = some b) :
    validate [] d x = some true := by
  unfold validate at hv ⊢
  split at hv
  · cases hv
  · rename_i h; simp [h, limitFor]

/-- monotone is the gap of the entry used, not admission: `validate [(2,1),(5,3)] 2 2 = some false`, `… 3 2 = some true` -/
theorem C20_gap_monotone (t : List Entry) (hs : t.Pairwise (fun a b => a.1 < b.1)) (d₁ d₂ : Nat)
    (h : d₁ ≤ d₂) (e₁ e₂ : Entry) (h1 : limitFor t d₁ = some e₁) (h2 : limitFor t d₂ = some e₂) :
    e₁.1 ≤ e₂.1 := by
  obtain ⟨_, _, hmin⟩ := (C20_lookup t hs d₁).1 e₁ h1
  obtain ⟨hm2, hd2, _⟩ := (C20_lookup t hs d₂).1 e₂ h2
  exact hmin e₂ hm2 (Nat.le_trans h hd2)

/-- `add_constraints` succeeds (the code's `assert!(max_distance > 0.0)` holds) whenever all limits are positive -/
theorem C20_build_total (calls : List (List Entry)) (h : ∀ c ∈ calls, ∀ e ∈ c, e.2 > 0) :
    ∃ t, build calls = some t := by
  induction calls with
  | nil => exact ⟨[], rfl⟩
  | cons c rest ih =>
    obtain ⟨t', ht'⟩ := ih (fun c' hc' => h c' (List.mem_cons_of_mem _ hc'))
    have hall : (c.all (fun e => decide (e.2 > 0))) = true := by
      simp only [List.all_eq_true, decide_eq_true_eq]
      exact h c List.mem_cons_self
    exact ⟨dedupFirst ((t' ++ c).mergeSort keyLE), by simp only [build, ht', addConstraints, hall, if_true]⟩

example : ∃ t, build [[(2, 9)], [(5, 3), (2, 1), (5, 7)]] = some t :=
  C20_build_total _ (by decide +kernel)
/-- and by `C20_table` that table answers gap 2 with limit 1 (the first configured), gap 5 with 3 -/
example (t : List Entry) (h : build [[(2, 9)], [(5, 3), (2, 1), (5, 7)]] = some t) :
    t.find? (fun e => e.1 == 2) = some (2, 1) ∧ t.find? (fun e => e.1 == 5) = some (5, 3) := by
  have := (C20_table _ t h).2
  exact ⟨by rw [this 2]; decide +kernel, by rw [this 5]; decide +kernel⟩
example : validate [(2, 1), (5, 3)] 3 (5/2) = some true ∧ validate [(2, 1), (5, 3)] 2 (5/2) = some false
    ∧ validate [(2, 1), (5, 3)] 6 100 = some true := by decide +kernel

end SimVerif.C20
