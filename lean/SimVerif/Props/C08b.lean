import SimVerif.Props.C08
import SimVerif.Lemmas.Clip
import SimVerif.Props.C19
/-!
# C08, part B — the Sutherland–Hodgman clipping model is equivariant under rigid motions

so the intersection area and IoU are unchanged when both boxes are translated / rotated together;
identical boxes have IoU 1. Over any linear ordered field, `c² + s² = 1`.
-/
namespace SimVerif.C08b
open SimVerif.Geom
variable {α : Type}

section Field
variable [Field α]

/-- the centre is mapped by `rigid`, the orientation `(cb, sb)` is composed with the rotation `(c, s)` -/
theorem vertices_rigid (c s tx ty : α) (u : UBox α) (cb sb : α) :
    vertices { u with xc := c * u.xc - s * u.yc + tx, yc := s * u.xc + c * u.yc + ty } (c * cb - s * sb) (s * cb + c * sb)
      = (vertices u cb sb).map (rigid c s tx ty) := by
  rw [vertices_eq, vertices_eq, List.map_map]
  exact List.map_congr_left fun p _ => (rigid_rigid c s tx ty cb sb u.xc u.yc p).symm

/-- overwriting the centre keeps the radius -/
theorem radiusSq_rigid (u : UBox α) (x y : α) :
    radiusSq { u with xc := x, yc := y } = radiusSq u := rfl

end Field

section Motion
variable [Field α] {c s : α} (tx ty : α) (h : c * c + s * s = 1)
include h

/-- the crossing point is `a + t·(b − a)`, `t` a quotient of `cross`es: the motion leaves `t` alone and is affine -/
theorem computeIntersection_rigid (a b p q : Pt α) (hD : cross a p q - cross b p q ≠ 0) :
    computeIntersection (rigid c s tx ty a) (rigid c s tx ty b) (rigid c s tx ty p) (rigid c s tx ty q)
      = rigid c s tx ty (computeIntersection a b p q) := by
  rw [C08c.computeIntersection_lerp a b p q hD, C08c.computeIntersection_lerp _ _ _ _ (by simpa only [cross_rigid tx ty h]),
    cross_rigid tx ty h, cross_rigid tx ty h, rigid_lerp]

variable [LinearOrder α]

theorem isInside_rigid (q p1 p2 : Pt α) :
    isInside (rigid c s tx ty q) (rigid c s tx ty p1) (rigid c s tx ty p2) = isInside q p1 p2 := by
  unfold isInside
  rw [cross_rigid tx ty h]

theorem emit_rigid (cs ce prev cur : Pt α) :
    emit (rigid c s tx ty cs) (rigid c s tx ty ce) (rigid c s tx ty prev) (rigid c s tx ty cur)
      = (emit cs ce prev cur).map (rigid c s tx ty) := by
  simp only [emit, isInside_rigid tx ty h]
  -- `simp` closes the same-side cases; what is left is the crossing point of the two mixed ones
  cases hc : isInside cur cs ce <;> cases hp : isInside prev cs ce <;> simp <;>
    exact computeIntersection_rigid tx ty h _ _ _ _ (cross_ne_of_sides (by rw [hc, hp]; simp))

theorem clipEdge_rigid (cs ce prev : Pt α) (poly : List (Pt α)) :
    clipEdge (rigid c s tx ty cs) (rigid c s tx ty ce) (rigid c s tx ty prev) (poly.map (rigid c s tx ty))
      = (clipEdge cs ce prev poly).map (rigid c s tx ty) := by
  induction poly generalizing prev with
  | nil => rfl
  | cons cur rest ih =>
    rw [List.map_cons, clipEdge_cons, clipEdge_cons, emit_rigid tx ty h, ih, List.map_append]

theorem clipPass_rigid (cs ce : Pt α) (poly : List (Pt α)) :
    clipPass (rigid c s tx ty cs) (rigid c s tx ty ce) (poly.map (rigid c s tx ty))
      = (clipPass cs ce poly).map (rigid c s tx ty) := by
  unfold clipPass
  rw [List.getLast?_map]
  cases poly.getLast? with
  | none => simp
  | some l => simp only [Option.map_some]; exact clipEdge_rigid tx ty h cs ce l poly

theorem shClip_rigid (subject clipping : List (Pt α)) :
    shClip (subject.map (rigid c s tx ty)) (clipping.map (rigid c s tx ty))
      = (shClip subject clipping).map (rigid c s tx ty) := by
  rw [shClip_eq_foldl, shClip_eq_foldl, cyclicEdges_map, List.foldl_map]
  generalize C08c.cyclicEdges clipping = es
  induction es generalizing subject with
  | nil => rfl
  | cons e es ih =>
    rw [List.foldl_cons, List.foldl_cons, ← ih]
    simp only [Prod.map_fst, Prod.map_snd, clipPass_rigid tx ty h]

/-- the pre-filter only looks at centre distance and radii, both preserved -/
theorem tooFar_rigid (l r : UBox α) :
    tooFar { l with xc := c * l.xc - s * l.yc + tx, yc := s * l.xc + c * l.yc + ty }
           { r with xc := c * r.xc - s * r.yc + tx, yc := s * r.xc + c * r.yc + ty } = tooFar l r := by
  have hd := rigid_distSq tx ty h (l.xc, l.yc) (r.xc, r.yc)
  simp only [rigid] at hd
  simp only [tooFar, radiusSq_rigid, hd]

end Motion

variable [Field α] [LinearOrder α] [IsStrictOrderedRing α]

/-- `IsStrictOrderedRing` is not used -/
theorem C08_rigid_invariant (c s tx ty : α) (h : c * c + s * s = 1) (subject clipping : List (Pt α)) :
    polyArea (shClip (subject.map (rigid c s tx ty)) (clipping.map (rigid c s tx ty)))
      = polyArea (shClip subject clipping) := by
  unfold polyArea
  rw [shClip_rigid tx ty h, shoelace2_rigid tx ty h]

/-- C08: `Universal2DBox::intersection` (hence IoU) is unchanged when both boxes are translated or rotated together -/
theorem C08_intersection_rigid (c s tx ty : α) (h : c * c + s * s = 1) (l r : UBox α) (cl sl cr sr : α) :
    intersection { l with xc := c * l.xc - s * l.yc + tx, yc := s * l.xc + c * l.yc + ty }
                 { r with xc := c * r.xc - s * r.yc + tx, yc := s * r.xc + c * r.yc + ty }
                 (c * cl - s * sl) (s * cl + c * sl) (c * cr - s * sr) (s * cr + c * sr)
      = intersection l r cl sl cr sr := by
  unfold intersection
  rw [tooFar_rigid tx ty h, vertices_rigid, vertices_rigid, C08_rigid_invariant c s tx ty h]

/-- a box whose corners lie in the other box is returned by the clip as it is: the intersection is its area -/
theorem intersection_of_inside (l r : UBox α) (cl sl cr sr : α) (h : cl * cl + sl * sl = 1)
    (hh : 0 ≤ l.height) (ha : 0 ≤ l.aspect) (hfar : tooFar l r = false)
    (hin : ∀ p ∈ vertices l cl sl, C08c.inBox r cr sr p) : intersection l r cl sl cr sr = area l := by
  rw [intersection, hfar, shClip_all_inside _ _ hin, C19.C19_polygon_area l cl sl h hh ha]
  rfl

/-- identical boxes: clipping a box polygon by itself returns it, so IoU = 1
(positive size, `cb² + sb² = 1`) -/
theorem C08_identical (u : UBox α) (cb sb : α) (h : cb * cb + sb * sb = 1) (hh : 0 < u.height) (ha : 0 < u.aspect) :
    shClip (vertices u cb sb) (vertices u cb sb) = vertices u cb sb ∧
    iou u u cb sb cb sb = some 1 := by
  have hin := vertices_inBox u cb sb h hh ha
  have hA : 0 < area u := mul_pos (mul_pos hh ha) hh
  -- the centre lies in both bounding circles
  have hc : (u.xc - u.xc) * (u.xc - u.xc) + (u.yc - u.yc) * (u.yc - u.yc) ≤ radiusSq u := by
    rw [sub_self, sub_self, mul_zero, add_zero]
    exact radiusSq_nonneg u
  have hfar : tooFar u u = false := C08.C08_toofar_sound u u u.xc u.yc hc hc
  refine ⟨shClip_all_inside _ _ hin, ?_⟩
  rw [iou, intersection_of_inside u u cb sb cb sb h hh.le ha.le hfar hin, if_neg hA.ne',
    show u.height * u.height * u.aspect + u.height * u.height * u.aspect - area u = area u by
      rw [area, mul_right_comm u.height u.height, add_sub_cancel_right],
    div_self hA.ne']

end SimVerif.C08b
