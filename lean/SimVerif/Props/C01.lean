import SimVerif.Lemmas.TrackerIds
/-!
# C01 — tracker output contract: one record per detection, distinct tracks per call, fresh ids

Model: `SimVerif.Tracker` (`predictScene` / `predict` / `predictBatch`). Every theorem is for every
distance table and **every valid choice** (`validChoice`: one-to-one, gated, of maximum total weight over
the table's entries; that the solver's optimum decodes to such a choice is not a theorem), every configuration,
and every state with `IdsBelow`. `IdsBelow` is kept by one step of every operation other than a predict
(`C01_reachable`) and by a predict of a simple tracker (`C01_distinct_fresh`); for `predictV` and the batch
predicts it is not stated.
-/
namespace SimVerif.C01
open SimVerif.Tracker

/-- **one record per detection, in submission order**, echoing the detection (token of its observed
box, custom object id) and carrying the scene's current epoch -/
theorem C01_len_echo (cfg : Cfg) (st st' : St) (scene : Nat) (dets : List Det) (table : List Entry)
    (picks : List Pick) (lo hi : Nat) (recs : List Rec)
    (h : predictScene cfg st scene dets table picks lo hi = some (st', recs)) :
    recs.length = dets.length ∧
    recs.map (·.tok) = dets.map (·.tok) ∧ recs.map (·.custom) = dets.map (·.custom) ∧
    (∀ r ∈ recs, r.epoch = epochOf st' scene) ∧ epochOf st' scene = epochOf st scene + 1 := by
  obtain ⟨_, _, ha⟩ := predictScene_parts h
  obtain ⟨b1, b4, b5, b6⟩ := applyPicks_recs ha
  have he : epochOf st' scene = epochOf st scene + 1 := by
    rw [epochOf_congr st' (setEpoch st scene (epochOf st scene + 1)) (congrArg St.epochs (predictScene_fields h) :),
      epochOf_setEpoch, if_pos rfl]
  exact ⟨b1, b4, b5, fun r hr => (b6 r hr).trans he.symm, he⟩

/-- **Ids**: the record of a detection carries the id of the track its pick continues or starts. -/
theorem C01_ids (cfg : Cfg) (st st' : St) (scene : Nat) (dets : List Det) (table : List Entry)
    (picks : List Pick) (lo hi : Nat) (recs : List Rec)
    (h : predictScene cfg st scene dets table picks lo hi = some (st', recs)) :
    recs.map (·.id) = picks.map pickId := by
  obtain ⟨_, _, ha⟩ := predictScene_parts h
  exact applyPicks_recs_ids ha

/-- **no two detections of one call receive the same track id**, and **the id of a newly started
track is larger than every id the tracker has ever held** (simple trackers; `IdsBelow` holds in every
reachable state, see `C01_reachable`). -/
theorem C01_distinct_fresh (cfg : Cfg) (hb : cfg.batchIds = false) (st st' : St) (hinv : IdsBelow st)
    (scene : Nat) (dets : List Det) (table : List Entry) (picks : List Pick) (recs : List Rec)
    (h : predictScene cfg st scene dets table picks 0 0 = some (st', recs)) :
    (recs.map (·.id)).Nodup ∧ (∀ id ∈ freshIds picks, st.nextId < id) ∧ IdsBelow st' := by
  obtain ⟨hv, hf, ha⟩ := predictScene_parts h
  have hc1 := valid_conts_nodup hv
  -- fresh ids are nextId+1, nextId+2, …
  obtain ⟨hfnd, hfb⟩ := consecutive_ids (n := st.nextId) ((freshIdsOk_simple_iff cfg hb _ 0 0 picks).mp hf)
  have hfgt : ∀ id ∈ freshIds picks, st.nextId < id := fun id hid => (hfb id hid).1
  have hsep : ∀ x ∈ (picks.map contOf).filterMap id, x ∉ freshIds picks := by
    intro x hx hxf
    obtain ⟨t, ht, _, _⟩ := valid_conts_of_mem hv hx
    have h1 : x ≤ st.nextId := findLive_id _ _ _ ht ▸ hinv.live t (findLive_mem _ _ _ ht)
    exact Nat.not_lt.mpr h1 (hfgt x hxf)
  refine ⟨by rw [C01_ids cfg st st' scene dets table picks 0 0 recs h]; exact nodup_pickIds picks hc1 hfnd hsep, hfgt, ?_⟩
  have hnext : st'.nextId = st.nextId + (freshIds picks).length := by
    rw [applyPicks_nextId ha, hb]; rfl
  refine (idsBelow_iff st').mpr fun i hi => ?_
  rcases List.mem_append.mp ((allIds_applyPicks ha).mem_iff.mp hi) with hi | hi
  · exact hnext ▸ Nat.le_trans ((idsBelow_iff st).mp hinv i hi) (Nat.le_add_right _ _)
  · exact hnext ▸ (hfb i hi).2

/-- batch trackers: all ids drawn in one batch come from the batch's own range `(lo, hi]`, are pairwise
distinct within the call and differ from every live id; continued tracks are pairwise distinct -/
theorem C01_distinct_batch (cfg : Cfg) (hb : cfg.batchIds = true) (st st' : St)
    (scene : Nat) (dets : List Det) (table : List Entry) (picks : List Pick) (lo hi : Nat) (recs : List Rec)
    (h : predictScene cfg st scene dets table picks lo hi = some (st', recs)) :
    (recs.map (·.id)).Nodup ∧ (∀ id ∈ freshIds picks, lo < id ∧ id ≤ hi ∧ ∀ t ∈ st.live, t.id ≠ id) := by
  obtain ⟨hv, hf, ha⟩ := predictScene_parts h
  have hc1 := valid_conts_nodup hv
  obtain ⟨hall, hfnd⟩ := (freshIdsOk_batch_iff cfg hb _ lo hi picks).mp hf
  have hsep : ∀ x ∈ (picks.map contOf).filterMap id, x ∉ freshIds picks := by
    intro x hx hxf
    obtain ⟨t, ht, _, _⟩ := valid_conts_of_mem hv hx
    exact (hall x hxf).2.2 (List.mem_map.mpr ⟨t, findLive_mem _ _ _ ht, findLive_id _ _ _ ht⟩)
  refine ⟨by rw [C01_ids cfg st st' scene dets table picks lo hi recs h]; exact nodup_pickIds picks hc1 hfnd hsep, ?_⟩
  intro id hid
  obtain ⟨h1, h2, h3⟩ := hall id hid
  exact ⟨h1, h2, fun t ht he => h3 (List.mem_map.mpr ⟨t, ht, he⟩)⟩

/-- `IdsBelow` holds of the empty tracker and is kept by one step of each operation other than a predict (no
operation list; a predict of a simple tracker is the third conjunct of `C01_distinct_fresh`) -/
theorem C01_reachable (cfg : Cfg) (st : St) (h : IdsBelow st) :
    IdsBelow ({} : St) ∧ IdsBelow (collect cfg st) ∧ IdsBelow (awStep cfg st) ∧
    (∀ s n, IdsBelow (skip cfg st s n)) ∧ IdsBelow (wastedOp cfg st).1 ∧ IdsBelow (clearWasted st) ∧
    (∀ p, IdsBelow (setAutoWaste st p)) ∧ (∀ s e, IdsBelow (setEpoch st s e)) := by
  exact ⟨.empty, h.of_perm (allIds_collect cfg st) rfl, h.awStep cfg, fun s n => h.of_perm (allIds_skip cfg st s n) rfl,
    h.of_perm (allIds_wastedOp cfg st) rfl, h.of_perm (allIds_clearWasted st) rfl,
    fun p => h.of_perm (allIds_setAutoWaste st p ▸ .refl _) rfl, fun s e => h.of_perm (.refl _) rfl⟩

/-! ### non-vacuity: a call with two detections competing for one track -/
private def cfg0 : Cfg := { maxIdle := 2, histLen := 3, batchIds := false, thr := 300000 }
private def st0 : St := { epochs := [(0, 1)], live := [(Trk.simple 1 0 1 1 none [1])], nextId := 1 }
example : (predictScene cfg0 st0 0 [(Det.simple 2 (none)), (Det.simple 3 (some 7))] [⟨0, 1, 500000⟩, ⟨1, 1, 800000⟩]
    [.fresh 2, .cont 1 false] 0 0).map (fun r => r.2.map (·.id)) = some [2, 1] := by decide +kernel
/-- the greedy choice (first detection takes the track) is rejected: it is not of maximum weight -/
example : predictScene cfg0 st0 0 [(Det.simple 2 (none)), (Det.simple 3 (some 7))] [⟨0, 1, 500000⟩, ⟨1, 1, 800000⟩]
    [.cont 1 false, .fresh 2] 0 0 = none := by decide +kernel

end SimVerif.C01
