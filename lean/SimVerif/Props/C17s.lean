import SimVerif.Props.C17
import SimVerif.Tie.Voting
/-!
# C17 at source level

C17 for `Gen.L.topn_winners` and `Gen.L.bestfit_winners` (`src/track/voting/topn.rs`, `best.rs`; `Tie/Voting.lean`). Restated
here: for TopN, members / order / length of an entry and its independence of the stream order — for every iteration order of
the group map that is a permutation; not the fourth part of `C17_topn_spec` (nothing cut outweighs what is kept). For BestFit
only that, in first-appearance order, the entry of a query is the model's `bestfit` of it (`C17_source_bestfit`, which is
`tie_bestfit_winners_id`); `C17_bestfit_rule`, `C17_bestfit_one_winner`, `C17_bestfit_perm` are not restated.
-/
namespace SimVerif.C17
open SimVerif.Voting SimVerif.Tie SimVerif.Gen.L
variable (maxD : Rat) (mv n : Nat)

section order
variable (order order' : List ((Nat × Nat) × List Rat) → List ((Nat × Nat) × List Rat))
  (horder : ∀ l, (order l).Perm l) (horder' : ∀ l, (order' l).Perm l)
include horder

/-- for every iteration order of the intermediate `HashMap` -/
theorem C17_source_topn_order (s : List Dist) (q : Nat) :
    (mapGet (topn_winners order n maxD mv s) q).isSome = !((cands maxD mv s).filter (fun e => e.q == q)).isEmpty ∧
    ∀ l, mapGet (topn_winners order n maxD mv s) q = some l →
      (∀ e ∈ l, e ∈ cands maxD mv s ∧ e.q = q) ∧ l.Pairwise (fun a b => b.weight ≤ a.weight) ∧
      l.length = min n ((cands maxD mv s).filter (fun e => e.q == q)).length := by
  have hp := (candsOrd_perm order horder maxD mv s).filter (fun e => e.q == q)
  rw [tie_topn_winners]
  dsimp only
  by_cases h : (candsOrd order maxD mv s).filter (fun e => e.q == q) = []
  · rw [h] at hp
    rw [if_pos h, hp.symm.eq_nil]
    exact ⟨rfl, fun l hl => nomatch hl⟩
  · rw [if_neg h]
    refine ⟨?_, fun l hl => ?_⟩
    · cases h' : (cands maxD mv s).filter (fun e => e.q == q) with
      | nil => exact absurd (h' ▸ hp : List.Perm _ []).eq_nil h
      | cons _ _ => rfl
    · obtain ⟨h1, h2, h3, _⟩ := take_sort_spec n hp
      exact Option.some.inj hl ▸ ⟨fun e he => by simpa using h1 e he, h2, h3⟩

include horder' in
/-- neither the iteration order of the `HashMap` nor the order of the stream matters (no weight ties inside the query) -/
theorem C17_source_topn_perm_order (s₁ s₂ : List Dist) (h : s₁.Perm s₂) (q : Nat)
    (hd : ∀ a ∈ cands maxD mv s₁, ∀ b ∈ cands maxD mv s₁, a.q = q → b.q = q → a.weight = b.weight → a = b) :
    mapGet (topn_winners order n maxD mv s₁) q = mapGet (topn_winners order' n maxD mv s₂) q := by
  have h1 := candsOrd_perm order horder maxD mv s₁
  have hp := ((h1.trans (cands_perm maxD mv h)).trans (candsOrd_perm order' horder' maxD mv s₂).symm).filter (fun e => e.q == q)
  have hnil : ((candsOrd order maxD mv s₁).filter (fun e => e.q == q) = []) ↔
      ((candsOrd order' maxD mv s₂).filter (fun e => e.q == q) = []) :=
    ⟨fun h0 => (h0 ▸ hp).symm.eq_nil, fun h0 => (h0 ▸ hp).eq_nil⟩
  rw [tie_topn_winners, tie_topn_winners]
  dsimp only
  rw [SortKey.mergeSort_desc_eq_of_perm Elt.weight (le := wGE) (fun _ _ => rfl) hp (fun a ha b hb => by
      simp only [List.mem_filter, beq_iff_eq] at ha hb
      exact hd a (h1.subset ha.1) b (h1.subset hb.1) ha.2 hb.2)]
  simp only [hnil]

end order

/-- the entry TopN returns for a query: at most `N` candidates of that query, by decreasing weight; and there is an entry
exactly when the query has a candidate -/
theorem C17_source_topn (s : List Dist) (q : Nat) :
    (mapGet (topn_winners id n maxD mv s) q).isSome = !((cands maxD mv s).filter (fun e => e.q == q)).isEmpty ∧
    ∀ l, mapGet (topn_winners id n maxD mv s) q = some l →
      (∀ e ∈ l, e ∈ cands maxD mv s ∧ e.q = q) ∧ l.Pairwise (fun a b => b.weight ≤ a.weight) ∧
      l.length = min n ((cands maxD mv s).filter (fun e => e.q == q)).length :=
  C17_source_topn_order maxD mv n id (fun _ => .refl _) s q

/-- TopN does not depend on the order of the stream (no weight ties inside the query) -/
theorem C17_source_topn_perm (s₁ s₂ : List Dist) (h : s₁.Perm s₂) (q : Nat)
    (hd : ∀ a ∈ cands maxD mv s₁, ∀ b ∈ cands maxD mv s₁, a.q = q → b.q = q → a.weight = b.weight → a = b) :
    mapGet (topn_winners id n maxD mv s₁) q = mapGet (topn_winners id n maxD mv s₂) q :=
  C17_source_topn_perm_order maxD mv n id id (fun _ => .refl _) (fun _ => .refl _) s₁ s₂ h q hd

theorem C17_source_bestfit (s : List Dist) (q : Nat) :
    mapGet (bestfit_winners id maxD mv s) q = (if bestfit maxD mv s q = [] then none else some (bestfit maxD mv s q)) :=
  tie_bestfit_winners_id maxD mv s q

end SimVerif.C17
