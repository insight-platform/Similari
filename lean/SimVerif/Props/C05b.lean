import SimVerif.Lemmas.AssignPerm
/-!
# C05 — the optimum of the association reads the distance table as a multiset
-/
namespace SimVerif.C05
open SimVerif.AssignX List

/-- re-reading an assignment of `s₁` along the detection order of `s₂` gives an assignment of `s₂`
with the same objective -/
theorem transport (s₁ s₂ : List Entry) (h : s₁ ~ s₂) (hnd : PairsNodup s₁) (thr : Int)
    (a₁ : List (Option Nat)) (hmem : a₁ ∈ allAssign (queries s₁) (tracks s₁)) :
    (queries s₂).map (C05L.reread (queries s₁) a₁) ∈ allAssign (queries s₂) (tracks s₂) ∧
    objective s₂ thr (queries s₂) ((queries s₂).map (C05L.reread (queries s₁) a₁)) =
      objective s₁ thr (queries s₁) a₁ := by
  obtain ⟨hlen, hin, hnda⟩ := (mem_allAssign_table s₁ a₁).mp hmem
  have hz := zip_reread_perm (queries s₁) (queries s₂) a₁ (Voting.firsts_nodup _) hlen (queries_perm s₁ s₂ h)
  have ha : (queries s₂).map (C05L.reread (queries s₁) a₁) ~ a₁ := by
    have := hz.map Prod.snd
    rwa [map_snd_zip (by simp), map_snd_zip (by omega)] at this
  have hf := ha.filterMap id
  refine ⟨(mem_allAssign_table s₂ _).mpr ⟨by simp, fun x hx => ?_, hf.nodup_iff.mpr hnda⟩, ?_⟩
  · exact (tracks_perm s₁ s₂ h).mem_iff.mp (hin x (hf.mem_iff.mp hx))
  · rw [objective_eq_sum, objective_eq_sum, summand_perm s₁ s₂ h hnd thr]
    exact (hz.map _).sum_eq

/-- **The optimum does not depend on the order of the distance table** (distinct pairs). -/
theorem C05_best_perm (s₁ s₂ : List Entry) (h : s₁ ~ s₂) (hnd : PairsNodup s₁) (thr : Int) :
    best s₁ thr = best s₂ thr := by
  have hnd2 : PairsNodup s₂ := (h.map _).nodup_iff.mp hnd
  have key : ∀ (s s' : List Entry), s ~ s' → PairsNodup s → best s thr ≤ best s' thr := by
    intro s s' hp hn
    obtain ⟨a, ha, hab⟩ := best_attained s thr
    obtain ⟨hm, ho⟩ := transport s s' hp hn thr a ha
    rw [← hab, ← ho]
    exact le_best s' thr _ hm
  exact Int.le_antisymm (key s₁ s₂ h hnd) (key s₂ s₁ h.symm hnd2)

/-- **… and neither do the optimal choices**: every optimal assignment of `s₁`, re-read along the detection
order of `s₂` (`C05L.reread`, written out in the statement), is an optimal assignment of `s₂`. `optimal` is the
enumeration's set of maximisers; no theorem relates it, or uniqueness of the optimum, to `validChoice` or to the
picks of a call. -/
theorem C05_optimal_transport (s₁ s₂ : List Entry) (h : s₁ ~ s₂) (hnd : PairsNodup s₁) (thr : Int)
    (a₁ : List (Option Nat)) (ha : a₁ ∈ optimal s₁ thr) :
    (queries s₂).map (fun q => (((queries s₁).zip a₁).find? (fun p => p.1 == q)).bind (·.2)) ∈ optimal s₂ thr := by
  change (queries s₂).map (C05L.reread (queries s₁) a₁) ∈ optimal s₂ thr
  unfold optimal at ha ⊢
  simp only [mem_filter, beq_iff_eq] at ha ⊢
  obtain ⟨hm, ho⟩ := transport s₁ s₂ h hnd thr a₁ ha.1
  exact ⟨hm, by rw [ho, ha.2, C05_best_perm s₁ s₂ h hnd thr]⟩

example :
    let s₁ : List Entry := [⟨1, 101, 900000⟩, ⟨1, 102, 800000⟩, ⟨2, 101, 700000⟩]
    let s₂ : List Entry := [⟨2, 101, 700000⟩, ⟨1, 102, 800000⟩, ⟨1, 101, 900000⟩]
    best s₁ 300000 = 1500000 ∧ best s₂ 300000 = 1500000 ∧ queries s₂ = [2, 1] := by
  decide +kernel

end SimVerif.C05
