import SimVerif.Model.Kalman
import Mathlib.Algebra.Order.Field.Basic
import Mathlib.Analysis.Real.Sqrt
import Mathlib.Tactic.Ring
import Mathlib.Tactic.FieldSimp
import Mathlib.Tactic.LinearCombination
/-!
# C07 — Kalman filters: textbook filter, SPD covariance, Mahalanobis distance, consistent gating

Model: `SimVerif.Kalman`, one constant-velocity filter per coordinate (`C1`: `init1`, `predict1`, `update1`, `dist1`), the cost
conversions, the vector filter's maps. No theorem mentions the model's list-level box filter (`boxInitiate` … `boxDistance`,
`stdVec`): the differential run compares it with the implementation. Over every linear ordered field
(`C07_distance_cholesky` over `ℝ`).
-/
namespace SimVerif.C07
open SimVerif.Kalman

section Field
variable {α : Type} [Field α]

/-- **Textbook update in closed form**: the posterior of the standard linear filter with `H = [1 0]`
— precision-weighted mean, and covariance `P − P Hᵀ S⁻¹ H P`. -/
theorem C07_update_closed_form (c : C1 α) (r z : α) (hs : c.a + r ≠ 0) :
    (update1 c r z).p = (r * c.p + c.a * z) / (c.a + r) ∧
    (update1 c r z).v = c.v + c.b * (z - c.p) / (c.a + r) ∧
    (update1 c r z).a = c.a * r / (c.a + r) ∧
    (update1 c r z).b = c.b * r / (c.a + r) ∧
    (update1 c r z).d = c.d - c.b * c.b / (c.a + r) := by
  -- `K S = P Hᵀ` (`h`) and `1 − K H = r / s` (`hk`); e.g. `a − a·(a/s) = a·(1 − a/s) = a·(r/s)`
  have h : ∀ x, x / (c.a + r) * (c.a + r) = x := fun x => div_mul_cancel₀ x hs
  have hk : 1 - c.a / (c.a + r) = r / (c.a + r) := by rw [one_sub_div hs, add_sub_cancel_left]
  simp only [update1, s1, h]
  exact ⟨by linear_combination c.p * hk, by rw [div_mul_eq_mul_div],
    by rw [← mul_one_sub, hk, mul_div_assoc], by rw [mul_div_left_comm, ← mul_one_sub, hk, mul_div_assoc],
    by rw [mul_div_assoc]⟩

def det1 (c : C1 α) : α := c.a * c.d - c.b * c.b

theorem det1_predict1 (c : C1 α) (qp qv : α) :
    det1 (predict1 c qp qv) = det1 c + qp * c.d + (c.a + c.b + c.b + c.d) * qv + qp * qv := by
  simp only [det1, predict1]; ring

/-- the update scales the determinant, like the position variance, by `r / s` -/
theorem det1_update1 (c : C1 α) (r z : α) (hs : c.a + r ≠ 0) :
    det1 (update1 c r z) = det1 c * r / (c.a + r) := by
  obtain ⟨_, _, ea, eb, ed⟩ := C07_update_closed_form c r z hs
  rw [det1, ea, eb, ed, det1]; field_simp; ring

def cycle (c : C1 α) (params : α × α × α) (z : α) : C1 α := update1 (predict1 c params.1 params.2.1) params.2.2 z

theorem cycle_fixed {c : C1 α} {z : α} (prm : α × α × α) (hp : c.p = z) (hv : c.v = 0) :
    (cycle c prm z).p = z ∧ (cycle c prm z).v = 0 := by
  -- the prediction stays at `z + 0`, so the innovation `z − (z + 0)` is `0` and the gains multiply nothing
  simp only [cycle, update1, predict1, hp, hv, add_zero, sub_self, mul_zero, and_self]

end Field

variable {α : Type} [Field α] [LinearOrder α] [IsStrictOrderedRing α]

/-- symmetric positive definite 2×2 covariance `[[a, b], [b, d]]` -/
def SPD (c : C1 α) : Prop := 0 < c.a ∧ 0 < c.d ∧ c.b * c.b < c.a * c.d

/-- **Textbook prediction**: `m' = F m`, `P' = F P Fᵀ + Q` for `F = [[1, 1], [0, 1]]`. -/
theorem C07_predict_textbook (c : C1 α) (qp qv : α) :
    (predict1 c qp qv).p = 1 * c.p + 1 * c.v ∧ (predict1 c qp qv).v = 0 * c.p + 1 * c.v ∧
    (predict1 c qp qv).a = (1 * c.a + 1 * c.b) * 1 + (1 * c.b + 1 * c.d) * 1 + qp ∧
    (predict1 c qp qv).b = (1 * c.a + 1 * c.b) * 0 + (1 * c.b + 1 * c.d) * 1 ∧
    (predict1 c qp qv).d = (0 * c.b + 1 * c.d) * 1 + qv := by
  simp only [predict1, one_mul, zero_mul, mul_one, mul_zero, zero_add, add_assoc, and_self]

/-- Sylvester's criterion; `0 < d` follows from `b² < a d` and `0 < a` -/
theorem spd_iff (c : C1 α) : SPD c ↔ 0 < c.a ∧ 0 < det1 c := by
  unfold SPD det1
  rw [sub_pos]
  refine ⟨fun h => ⟨h.1, h.2.2⟩, fun h => ⟨h.1, ?_, h.2⟩⟩
  exact (pos_iff_pos_of_mul_pos ((mul_self_nonneg c.b).trans_lt h.2)).1 h.1

/-- the variance of `p + v` (the quadratic form of the covariance at `(1, 1)`) is positive -/
theorem SPD.sum_pos {c : C1 α} (h : SPD c) : 0 < c.a + c.b + c.b + c.d := by
  have e : (c.a + c.b + c.b + c.d) * c.a = (c.a + c.b) * (c.a + c.b) + det1 c := by
    simp only [det1]; ring
  exact (pos_iff_pos_of_mul_pos (e ▸ add_pos_of_nonneg_of_pos (mul_self_nonneg _) ((spd_iff c).1 h).2)).2 h.1

theorem C07_spd_predict (c : C1 α) (qp qv : α) (h : SPD c) (hqp : 0 ≤ qp) (hqv : 0 ≤ qv) :
    SPD (predict1 c qp qv) := by
  have hs := h.sum_pos
  rw [spd_iff, det1_predict1]
  -- `det + qp·d + (a + 2b + d)·qv + qp·qv`: the first term is positive, the others are non-negative
  exact ⟨add_pos_of_pos_of_nonneg hs hqp,
    add_pos_of_pos_of_nonneg (add_pos_of_pos_of_nonneg (add_pos_of_pos_of_nonneg ((spd_iff c).1 h).2
      (mul_nonneg hqp h.2.1.le)) (mul_nonneg hs.le hqv)) (mul_nonneg hqp hqv)⟩

theorem C07_spd_update (c : C1 α) (r z : α) (h : SPD c) (hr : 0 < r) : SPD (update1 c r z) := by
  obtain ⟨ha, hdet⟩ := (spd_iff c).1 h
  have hs : 0 < c.a + r := add_pos ha hr
  rw [spd_iff, det1_update1 c r z hs.ne', (C07_update_closed_form c r z hs.ne').2.2.1]
  exact ⟨div_pos (mul_pos ha hr) hs, div_pos (mul_pos hdet hr) hs⟩

/-- **A stationary object keeps being predicted where it is**: with constant measurements the
position mean equals the measurement and the velocity mean is zero after every step, whatever the
noise parameters of each step. -/
theorem C07_stationary (z sp sv : α) (steps : List (α × α × α)) :
    (steps.foldl (fun c prm => cycle c prm z) (init1 z sp sv)).p = z ∧
    (steps.foldl (fun c prm => cycle c prm z) (init1 z sp sv)).v = 0 ∧
    ∀ prm : α × α × α, (predict1 (steps.foldl (fun c prm => cycle c prm z) (init1 z sp sv)) prm.1 prm.2.1).p = z := by
  have key : ∀ c : C1 α, c.p = z ∧ c.v = 0 →
      (steps.foldl (fun c prm => cycle c prm z) c).p = z ∧ (steps.foldl (fun c prm => cycle c prm z) c).v = 0 := by
    induction steps with
    | nil => exact fun _ h => h
    | cons prm rest ih => exact fun c h => ih _ (cycle_fixed prm h.1 h.2)
  obtain ⟨h1, h2⟩ := key (init1 z sp sv) ⟨rfl, rfl⟩
  exact ⟨h1, h2, fun prm => by simp only [predict1, h1, h2, add_zero]⟩

/-- **Distance**: the reported distance is the squared Mahalanobis distance `(z−Hm)ᵀ S⁻¹ (z−Hm)`;
with diagonal `S` it is `Σ dᵢ²/sᵢ`, which is what the Cholesky route `‖L⁻¹ d‖²`, `L = diag √sᵢ`, computes. -/
theorem C07_distance_cholesky (d s : ℝ) (hs : 0 < s) : (d / Real.sqrt s) * (d / Real.sqrt s) = d * d / s := by
  have hne : Real.sqrt s ≠ 0 := (Real.sqrt_pos.mpr hs).ne'
  field_simp
  rw [Real.sq_sqrt hs.le]

theorem C07_distance_nonneg (c : C1 α) (r z : α) (hs : 0 < c.a + r) : 0 ≤ dist1 c r z := by
  simp only [dist1, s1]
  exact div_nonneg (mul_self_nonneg _) hs.le

theorem C07_vec_independent (cfg : PtCfg α) (sts : List (List (C1 α))) (zs : List (List α)) (i : Nat)
    (hi : i < sts.length) (hz : i < zs.length) :
    (vecPredict cfg sts)[i]? = some (ptPredict cfg sts[i]) ∧
    (vecUpdate cfg sts zs)[i]? = some (ptUpdate cfg sts[i] zs[i]) ∧
    (vecDistance cfg sts zs)[i]? = some (ptDistance cfg sts[i] zs[i]) := by
  simp [vecPredict, vecUpdate, vecDistance, hi, hz]

theorem C07_cost_consistent (g u d : α) : costInverted g u d = u - costDirect g u d := by
  unfold costInverted costDirect
  split <;> simp

/-- Both branches of each filter's `calculate_cost` use one gate (the premise of `C07_cost_consistent`): the 95 % χ² quantile for
5 degrees of freedom (box: index 4) and for 2 (point and point-vector: index 1). Regenerated from
the source on every run. -/
theorem C07_gates_box : Gen.boxCostGateDirect = 4 ∧ Gen.boxCostGateInverted = Gen.boxCostGateDirect := by decide

theorem C07_gates_point : Gen.pointCostGateDirect = 1 ∧ Gen.pointCostGateInverted = Gen.pointCostGateDirect := by decide

theorem C07_dt : Gen.DT = 1 ∧ Gen.stdConstIndex = 3 := by decide

example : SPD (init1 (3 : ℚ) 2 5) := by simp [SPD, init1]
example : SPD (update1 (predict1 (init1 (3 : ℚ) 2 5) 1 1) 1 7) :=
  C07_spd_update _ _ _ (C07_spd_predict _ _ _ (by simp [SPD, init1]) (by norm_num) (by norm_num)) (by norm_num)

end SimVerif.C07
