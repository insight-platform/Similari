import SimVerif.Props.C11
import SimVerif.Tie.Track
/-!
# C11 at source level

Atomicity and the merge-history rule restated **for the generated functions themselves** (`track_add_observation`, `track_merge`,
which `Tie/Track.lean` proves equal to the model): for every family of callbacks, every position at which a callback fails, and
**whatever the failing callback leaves behind in the places it was given** (`junk`), a failing call returns the track's
attributes, observation table, metric state and merge history exactly as they were and sends no notification; a successful call
sends exactly one.
-/
namespace SimVerif.C11
open SimVerif.Track SimVerif.Tie SimVerif.Gen.L
variable {TA M A F U Q E : Type}

theorem C11_source_add_atomic (cb : Cb TA M (Option A × Option F) U Q E) (junkA : U → TA → TA)
    (junkO : M → Nat → List Nat → TA → List (Option A × Option F) → Nat → Bool → M × TA × List (Option A × Option F))
    (t : Track TA M (Option A × Option F)) (cls : Nat) (fa : Option A) (f : Option F) (u : Option U) (notes : Nat) :
    let r := track_add_observation (applyOf cb junkA) (optimizeOf cb junkO) t.attrs t.obs t.metric t.hist notes cls fa f u
    (∀ e, r.1 = .error e → r.2.1 = t.attrs ∧ r.2.2.1 = t.obs ∧ r.2.2.2.1 = t.metric ∧ r.2.2.2.2 = notes) ∧
    (r.1 = .ok () → r.2.2.2.2 = notes + 1) := by
  intro r
  obtain ⟨h1, h2, h3⟩ := tie_track_add_observation cb junkA junkO t cls fa f u notes
  obtain ⟨hE, hO⟩ := C11_add_atomic cb t cls (if f.isNone && fa.isNone then none else some (fa, f)) u
  constructor
  · intro e he
    -- the model's track afterwards is `t`, and it is made of what the source returns
    obtain ⟨ht, hn⟩ := hE (.cb e) (by rw [h1, he, liftErr_error])
    rw [h2] at ht
    exact ⟨congrArg Track.attrs ht, congrArg Track.obs ht, congrArg Track.metric ht, by rw [h3, hn]; rfl⟩
  · intro hok
    rw [h3, hO (by rw [h1, hok, liftErr_ok])]

/-- **`Track::merge` is atomic, and the merge history is installed once, only on success** (source level) -/
theorem C11_source_merge (cb : Cb TA M (Option A × Option F) U Q E) (junkA : TA → TA → TA)
    (junkO : M → Nat → List Nat → TA → List (Option A × Option F) → Nat → Bool → M × TA × List (Option A × Option F))
    (dst src : Track TA M (Option A × Option F)) (classes : List Nat) (flag : Bool) (notes : Nat) :
    let r := track_merge (mergeOf cb junkA) (optimizeOf cb junkO) dst.attrs dst.obs dst.metric dst.hist notes
      src.attrs src.obs src.hist classes flag
    (∀ e, r.1 = .error e →
      r.2.1 = dst.attrs ∧ r.2.2.1 = dst.obs ∧ r.2.2.2.1 = dst.metric ∧ r.2.2.2.2.1 = dst.hist ∧ r.2.2.2.2.2 = notes) ∧
    (r.1 = .ok () → r.2.2.2.2.2 = notes + 1 ∧
      r.2.2.2.2.1 = (if flag && classes.any (fun c => (getObs dst.obs c).isSome || (getObs src.obs c).isSome)
        then dst.hist ++ src.hist else dst.hist)) := by
  intro r
  obtain ⟨h1, h2, h3⟩ := tie_track_merge cb junkA junkO dst src classes flag notes
  obtain ⟨hE, hO⟩ := C11_merge_atomic cb dst src classes flag
  constructor
  · intro e he
    obtain ⟨ht, hn⟩ := hE (.cb e) (by rw [h1, he, liftErr_error])
    rw [h2] at ht
    exact ⟨congrArg Track.attrs ht, congrArg Track.obs ht, congrArg Track.metric ht, congrArg Track.hist ht,
      by rw [h3, hn]; rfl⟩
  · intro hok
    have hmok : (merge cb dst src classes flag).1 = .ok () := by rw [h1, hok, liftErr_ok]
    exact ⟨by rw [h3, hO hmok], (congrArg Track.hist h2).symm.trans (C11_history cb dst src classes flag hmok)⟩

end SimVerif.C11
