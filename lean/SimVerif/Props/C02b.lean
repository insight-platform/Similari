import SimVerif.Props.C02
import SimVerif.Lemmas.AssignCert
/-!
# C02, part B — the optimum the tracker model demands is the true optimum, for tables of every size

`validChoice` compares the objective of the observed association with `AssignX.bestOf`: the exhaustive
enumeration `best` on small tables, and beyond a solver result that is accepted only with a checked dual
certificate. `bestOf_eq_best` (weak duality, `Lemmas/AssignCert.lean`) shows the two coincide for every
table, so the tracker-level statement holds at full strength: a valid association is at least as heavy as
**every** one-to-one partial assignment of the call's detections to the tracks of its distance table,
unmatched detections counting the threshold.
-/
namespace SimVerif.C02
open SimVerif.AssignX SimVerif.Tracker

theorem C02_tracker_optimal (cfg : Cfg) (st : St) (scene e n : Nat) (table : List Tracker.Entry) (picks : List Pick)
    (h : validChoice cfg st scene e n table picks = true) :
    let es : List AssignX.Entry := table.map (fun x => { q := x.det + 1, t := x.tid, w := x.w })
    ∀ a : List (Option Nat), a.length = (queries es).length → (∀ x ∈ a.filterMap id, x ∈ tracks es) →
      (a.filterMap id).Nodup →
      objective es cfg.thr (queries es) a ≤
        objective es cfg.thr (queries es) ((queries es).map (fun q => (picks.map contOf).getD (q - 1) none)) := by
  intro es a hlen hin hnd
  have hopt := (C02_tracker cfg st scene e n table picks h).2.2
  simp only at hopt
  rw [hopt, AssignCert.bestOf_eq_best]
  exact le_best es cfg.thr a ((mem_allAssign_table es a).mpr ⟨hlen, hin, hnd⟩)

/-- a 6 × 6 table is beyond the enumeration limit: `bestOf` takes the certified branch there -/
example : small ((List.range 6).flatMap (fun q => (List.range 6).map (fun t =>
    ({ q := q + 1, t := 100 + t, w := (((q * 7 + t * 13) % 17 : Nat) : Int) * 50000 } : AssignX.Entry)))) = false := by
  decide +kernel

end SimVerif.C02
