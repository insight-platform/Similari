import SimVerif.Lemmas.Feature
import SimVerif.Lemmas.FeatureReal
import Mathlib.Algebra.Ring.Defs
/-!
# C16 — feature packing and distance functions match the scalar definitions

Model: `SimVerif.Feature` (loop of `Feature::from_vec`, `Vec::from_vec(&Feature)`, block-wise
`euclidean` / `cosine` of src/distance.rs). Metric laws over `ℝ` are in the second half.
-/
namespace SimVerif.C16
open SimVerif.Feature

section Packing
variable {α : Type} [Zero α] [Add α] [Sub α] [Mul α]

/-- the empty vector becomes one all-zero block, as the code does -/
theorem C16_roundtrip (v : List α) :
    unpack (pack v) = v ++ List.replicate (padLen v.length) 0 ∧
    (v.length + padLen v.length) % 8 = 0 ∧
    (v ≠ [] → padLen v.length < 8) ∧ (v = [] → padLen v.length = 8) := by
  refine ⟨?_, add_padLen_mod _, fun hv => padLen_lt (mt List.eq_nil_of_length_eq_zero hv), fun hv => by rw [hv]; rfl⟩
  have h0 : At (⟨[], zeros, 0⟩ : PState α) 0 [] := .filling [] [] 0 rfl fun _ => rfl
  simpa [unpack, pack, finish] using flatten_finish_packLoop v h0

end Packing

section Blocks
variable {α : Type} [CommRing α]

/-- `lsum` unfolds to `List.sum` -/
theorem lsum_append (a b : List α) : lsum (a ++ b) = lsum a + lsum b := List.sum_append

/-- Summing `g` block by block over paired blocks of equal lengths is summing it over the two flattened lists. -/
theorem lsum_blocks (g : α × α → α) (f1 f2 : List (List α)) (h : ∀ p ∈ f1.zip f2, p.1.length = p.2.length) :
    lsum ((f1.zip f2).map (fun p => lsum ((p.1.zip p.2).map g))) =
      lsum (((f1.take (min f1.length f2.length)).flatten.zip (f2.take (min f1.length f2.length)).flatten).map g) := by
  induction f1 generalizing f2 with
  | nil => rfl
  | cons b1 f1 ih =>
    cases f2 with
    | nil => rfl
    | cons b2 f2 =>
      rw [List.length_cons, List.length_cons, Nat.add_min_add_right, List.take_succ_cons, List.take_succ_cons,
        List.flatten_cons, List.flatten_cons, List.zip_append (h (b1, b2) List.mem_cons_self), List.map_append, lsum_append,
        ← ih f2 fun p hp => h p (List.mem_cons_of_mem _ hp)]
      rfl

/-- Block-wise accumulation (what the SIMD code does) equals the flat textbook sum over the common
packed prefix, for any two block lists whose paired blocks have equal lengths. -/
theorem C16_blocks_flat (f1 f2 : List (List α))
    (h : ∀ p ∈ f1.zip f2, p.1.length = p.2.length) :
    sqEuclid f1 f2 = flatSq (f1.take (min f1.length f2.length)).flatten (f2.take (min f1.length f2.length)).flatten ∧
    dot f1 f2 = flatDot (f1.take (min f1.length f2.length)).flatten (f2.take (min f1.length f2.length)).flatten :=
  ⟨lsum_blocks _ f1 f2 h, lsum_blocks _ f1 f2 h⟩

end Blocks

section Reals

/-- `euclidR` is a definition of `Lemmas/FeatureReal`, not a function of the model: `tie_euclidean` with `C16_blocks_flat` makes
`euclidean f1 f2` (for `Real.sqrt`, paired blocks of equal length) `euclidR` of the flattened common block prefixes. -/
theorem C16_euclid_metric (a b c : List ℝ) (hab : a.length = b.length) (hbc : b.length = c.length) :
    euclidR a b = euclidR b a ∧ euclidR a a = 0 ∧ 0 ≤ euclidR a b ∧
    euclidR a c ≤ euclidR a b + euclidR b c :=
  ⟨euclidR_symm a b, euclidR_self a, euclidR_nonneg a b, euclidR_triangle a b c hab hbc⟩

/-- About `cosineR` of `Lemmas/FeatureReal`, which divides by the norms of the whole lists; the source (`tie_cosine`) divides by
`sqNorm` cut to the common block prefix, and no theorem links `sqNorm` to `flatDot` (`C16_blocks_flat` covers the numerator only).
`h` is not used: `flatDot a b` reads the common prefix, and Cauchy–Schwarz holds for any two lengths. -/
theorem C16_cosine (a b : List ℝ) (h : a.length = b.length) (ha : flatDot a a ≠ 0) (hb : flatDot b b ≠ 0)
    (k : ℝ) :
    cosineR a b = cosineR b a ∧ (-1 ≤ cosineR a b ∧ cosineR a b ≤ 1) ∧
    (0 < k → cosineR a (a.map (k * ·)) = 1) ∧ (k < 0 → cosineR a (a.map (k * ·)) = -1) ∧
    (0 < k → cosineR (a.map (k * ·)) b = cosineR a b) :=
  ⟨cosineR_symm a b, cosineR_range a b ha hb, fun hk => cosineR_parallel a k hk ha,
   fun hk => cosineR_opposite a k hk ha, fun hk => cosineR_scale a b k hk⟩

end Reals

example : flatDot ([1, 2] : List ℝ) [1, 2] ≠ 0 := by norm_num [flatDot, lsum]
example : pack ([1, 2, 3] : List Int) = [[1, 2, 3, 0, 0, 0, 0, 0]] := by decide
example : pack ([] : List Int) = [[0, 0, 0, 0, 0, 0, 0, 0]] := by decide
example : (pack ([1, 2, 3, 4, 5, 6, 7, 8, 9] : List Int)).length = 2 := by decide

end SimVerif.C16
