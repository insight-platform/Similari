import SimVerif.Lemmas.Nms
import SimVerif.Lemmas.SortKey
/-!
# C14 — non-maximum suppression keeps a maximal independent set in rank order

All statements are about `SimVerif.Nms.nms`, the faithful model of `src/utils/nms.rs::nms` (score filter,
validity filter, enumerate, stable descending sort, excluded-set double loop), for **every** coverage
predicate `cov`, every score threshold and every input list.
-/
namespace SimVerif.C14
open SimVerif.Nms
variable {α : Type} (cov : Box α → Box α → Bool) (sthr : Option Rat) (l : List (Box α))

def ranked : List (Box α) := (l.filter (passes sthr)).mergeSort rankGE

theorem ranked_perm : (ranked sthr l).Perm (l.filter (passes sthr)) := List.mergeSort_perm _ _

theorem ranked_sorted : (ranked sthr l).Pairwise (fun a b => rank b ≤ rank a) :=
  SortKey.pairwise_mergeSort_desc rank (fun _ _ => rfl) _

theorem C14_subset_sorted :
    (nms cov sthr l).Sublist (ranked sthr l) ∧
    (∀ b ∈ nms cov sthr l, b ∈ l ∧ passes sthr b = true) ∧
    (nms cov sthr l).Pairwise (fun a b => rank b ≤ rank a) := by
  rw [nms_eq_walk]
  have hs := walk_sublist cov [] (ranked sthr l)
  refine ⟨hs, ?_, (ranked_sorted sthr l).sublist hs⟩
  intro b hb
  have := (ranked_perm sthr l).subset (hs.subset hb)
  simpa using this

theorem C14_top_kept : (nms cov sthr l).head? = (ranked sthr l).head? := by
  rw [nms_eq_walk]
  unfold ranked
  cases (l.filter (passes sthr)).mergeSort rankGE <;> simp [walk]

theorem C14_independent : (nms cov sthr l).Pairwise (fun a b => cov a b = false) := by
  rw [nms_eq_walk]; exact (walk_indep cov [] _).2

/-- exact keep/drop rule: at any position of the ranked list, the box `b` there is dropped iff some box kept
from the higher-ranked prefix `pre` covers it; the boxes kept from `pre` (`walk cov [] pre`) are a prefix of the result. -/
theorem C14_keep_rule (pre post : List (Box α)) (b : Box α) (h : ranked sthr l = pre ++ b :: post) :
    ∃ tail, nms cov sthr l =
      walk cov [] pre ++ (if (walk cov [] pre).any (fun a => cov a b) then tail else b :: tail) := by
  rw [nms_eq_walk]
  unfold ranked at h
  rw [h, walk_append]
  simp only [List.append_nil, walk, List.any_reverse]
  split <;> exact ⟨_, rfl⟩

/-- `b ∉ nms …` is membership by value: of a box value that occurs twice with one copy kept this says nothing; the
positional `C14_keep_rule` covers the dropped copy. -/
theorem C14_maximal (b : Box α) (hb : b ∈ ranked sthr l) (hn : b ∉ nms cov sthr l) :
    ∃ a ∈ nms cov sthr l, cov a b = true ∧ rank b ≤ rank a := by
  obtain ⟨pre, post, h⟩ := List.append_of_mem hb
  obtain ⟨tail, ht⟩ := C14_keep_rule cov sthr l pre post b h
  by_cases hc : (walk cov [] pre).any (fun a => cov a b) = true
  · obtain ⟨a, ha, hcov⟩ := List.any_eq_true.mp hc
    refine ⟨a, ?_, hcov, ?_⟩
    · rw [ht]; exact List.mem_append_left _ ha
    · have hs := ranked_sorted sthr l
      rw [h, List.pairwise_append] at hs
      exact hs.2.2 a ((walk_sublist cov [] pre).subset ha) b List.mem_cons_self
  · rw [ht, if_neg hc] at hn
    exact absurd (List.mem_append_right _ List.mem_cons_self) hn

/-- the fixed points of `nms`: a list of passing boxes in rank order none of which covers a later one -/
theorem nms_eq_self (m : List (Box α)) (hp : ∀ b ∈ m, passes sthr b = true)
    (hs : m.Pairwise (fun a b => rank b ≤ rank a)) (hi : m.Pairwise (fun a b => cov a b = false)) :
    nms cov sthr m = m := by
  rw [nms_eq_walk, List.filter_eq_self.mpr hp, List.mergeSort_of_pairwise (by simpa [rankGE] using hs)]
  exact walk_fix cov [] _ (by simp) hi

theorem C14_idempotent : nms cov sthr (nms cov sthr l) = nms cov sthr l := by
  obtain ⟨_, hpass, hsorted⟩ := C14_subset_sorted cov sthr l
  exact nms_eq_self cov sthr _ (fun b hb => (hpass b hb).2) hsorted (C14_independent cov sthr l)

/-- the definition of `rank` read as a `match`; nothing about `nms` -/
theorem C14_rank (b : Box α) : rank b = (match b.score with | some s => s | none => b.height) := by
  cases h : b.score <;> simp [rank, h]

/-! ### non-vacuity: a concrete set where NMS drops, keeps and is not greedy-trivial -/

private def bx (i : Nat) (s : Rat) : Box Nat := { item := i, score := some s, height := 1, aspect := 1 }
/-- 0 covers 1, 1 covers 2 (but 1 is dropped, so 2 survives), nothing else -/
private def cv (a b : Box Nat) : Bool := (a.item == 0 && b.item == 1) || (a.item == 1 && b.item == 2)

private def inp : List (Box Nat) := [bx 0 3, bx 1 2, bx 2 1]

example : ∀ b ∈ inp, passes none b = true := by decide +kernel
example : inp.Pairwise (fun a b => rankGE a b = true) := by decide
example : (walk cv [] inp).map (·.item) = [0, 2] := by decide
/-- so on this input the code's `nms` keeps boxes 0 and 2: 1 is dropped (covered by 0), and 2 is kept
although the dropped box 1 covers it -/
example : (nms cv none inp).map (·.item) = [0, 2] := by
  rw [nms_eq_walk]
  have h1 : inp.filter (passes none) = inp := List.filter_eq_self.mpr (by decide +kernel)
  have h2 : inp.mergeSort rankGE = inp := List.mergeSort_of_pairwise (by decide)
  rw [h1, h2]; decide

end SimVerif.C14
