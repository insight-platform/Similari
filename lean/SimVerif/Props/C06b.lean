import SimVerif.Lemmas.TrackerScene
import Mathlib.Data.List.Perm.Basic
/-!
# C06 — the scenes of one batch may be processed in any order
Model: `SimVerif.Tracker`.

The voting threads of a batch tracker work on the scenes of one batch concurrently; each scene's
job is one `predictScene` step (the same step the simple trackers take) with ids drawn from the
batch's range. The model runs the jobs one after the other (`batchScenes`); these theorems say
that the order does not matter, the id of every new track being part of the job (`Pick.fresh id`). The code
draws that id when a voting thread reaches the candidate, so another order hands other ids to the same
detections: "the same records" is for equal id draws, not up to a renaming of ids.
-/
namespace SimVerif.C06
open SimVerif.Tracker List

/-- two tracker states that agree up to the order in which scenes and tracks were entered -/
def StEq (a b : St) : Prop :=
  (∀ s, epochOf a s = epochOf b s) ∧ a.live ~ b.live ∧ a.wasted = b.wasted ∧ a.nextId = b.nextId ∧
  a.awPeriod = b.awPeriod ∧ a.awCounter = b.awCounter ∧ a.handed = b.handed ∧ a.cleared = b.cleared

theorem StEq.refl (a : St) : StEq a a := by
  exact ⟨fun _ => rfl, Perm.refl _, rfl, rfl, rfl, rfl, rfl, rfl⟩

theorem StEq.trans {a b c : St} (h1 : StEq a b) (h2 : StEq b c) : StEq a c := by
  obtain ⟨x1, x2, x3, x4, x5, x6, x7, x8⟩ := h1
  obtain ⟨y1, y2, y3, y4, y5, y6, y7, y8⟩ := h2
  exact ⟨fun s => (x1 s).trans (y1 s), x2.trans y2, x3.trans y3, x4.trans y4, x5.trans y5, x6.trans y6,
    x7.trans y7, x8.trans y8⟩

theorem StEq.nodup {a b : St} (h : StEq a b) (hu : (a.live.map (·.id)).Nodup) : (b.live.map (·.id)).Nodup :=
  ((h.2.1.map (·.id)).nodup_iff).mp hu

theorem StEq.of_rest {a b a' b' : St} (hab : StEq a b) (ha : SameRest a' a) (hb : SameRest b' b)
    (he : ∀ s, epochOf a' s = epochOf b' s) (hl : a'.live ~ b'.live) (hn : a'.nextId = b'.nextId) : StEq a' b' := by
  obtain ⟨_, _, x3, _, x5, x6, x7, x8⟩ := hab
  unfold SameRest at ha hb
  rw [ha, hb]
  exact ⟨he, hl, x3, hn, x5, x6, x7, x8⟩

theorem predictScene_congr (cfg : Cfg) (a b : St) (hab : StEq a b) (hu : (a.live.map (·.id)).Nodup)
    (scene : Nat) (dets : List Det) (table : List Entry) (picks : List Pick) (lo hi : Nat)
    (st₁ : St) (recs : List Rec) (h : predictScene cfg a scene dets table picks lo hi = some (st₁, recs)) :
    ∃ st₂, predictScene cfg b scene dets table picks lo hi = some (st₂, recs) ∧ StEq st₁ st₂ := by
  obtain ⟨he, hl, -, hn, -⟩ := id hab
  have hnb := hab.nodup hu
  obtain ⟨_, hf, _⟩ := predictScene_parts h
  have hfb : freshIdsOk cfg (setEpoch b scene (epochOf b scene + 1)) lo hi picks = true :=
    freshIdsOk_of cfg _ _ lo hi picks (fun _ => hn) (fun _ _ _ hm => (hl.map (·.id)).mem_iff.mpr hm) hf
  obtain ⟨st₂, h2, hperm⟩ := predictScene_view (fun _ => true) ViewRel.permOld (fun _ _ => rfl) hu hnb
    (by rw [filter_true, filter_true]; exact PermOld.of_perm hl.symm hnb) (he scene) hfb h
  rw [filter_true, filter_true] at hperm
  replace hperm := hperm.perm.symm
  refine ⟨st₂, h2, hab.of_rest (predictScene_rest h) (predictScene_rest h2) (fun s => ?_) hperm ?_⟩
  · rw [predictScene_epoch h s,
      predictScene_epoch h2 s, he scene, he s]
  · rw [predictScene_nextId h,
      predictScene_nextId h2, hn]

theorem predictScene_comm (cfg : Cfg) (hb : cfg.batchIds = true) (a : St) (hu : (a.live.map (·.id)).Nodup)
    (s₁ s₂ : Nat) (hne : s₁ ≠ s₂) (d₁ d₂ : List Det) (t₁ t₂ : List Entry) (p₁ p₂ : List Pick) (lo hi : Nat)
    (m st : St) (r₁ r₂ : List Rec)
    (h₁ : predictScene cfg a s₁ d₁ t₁ p₁ lo hi = some (m, r₁))
    (h₂ : predictScene cfg m s₂ d₂ t₂ p₂ lo hi = some (st, r₂)) :
    ∃ m' st', predictScene cfg a s₂ d₂ t₂ p₂ lo hi = some (m', r₂) ∧
      predictScene cfg m' s₁ d₁ t₁ p₁ lo hi = some (st', r₁) ∧ StEq st st' := by
  -- job 2 acts in the view of scene s₂, job 1 in its complement: `predictScene_view` on the own view, `predictScene_frame` on the other
  have hne' : s₂ ≠ s₁ := fun h => hne h.symm
  have v₂ : ∀ t : Trk, t.scene = s₂ → (t.scene == s₂) = true := fun t h => beq_iff_eq.mpr h
  have n₁ : ∀ t : Trk, t.scene = s₁ → (t.scene == s₂) = false := fun t h => beq_false_of_ne fun e => hne (h.symm.trans e)
  have v₁ : ∀ t : Trk, t.scene = s₁ → (!(t.scene == s₂)) = true := fun t h => by rw [n₁ t h]; rfl
  have n₂ : ∀ t : Trk, t.scene = s₂ → (!(t.scene == s₂)) = false := fun t h => by rw [v₂ t h]; rfl
  -- the ids: `m` holds those of `a` and the fresh ids of job 1; job 2 draws none of them
  have hum := predictScene_nodup hb hu h₁
  obtain ⟨f2, _⟩ := predictScene_fresh hb h₂
  have idsm := predictScene_liveIds h₁
  obtain ⟨m', hm', V2⟩ := predictScene_view (fun t => t.scene == s₂) ViewRel.eq v₂ hum hu
    (predictScene_frame _ n₁ hu h₁).symm (by rw [predictScene_epoch h₁ s₂, if_neg hne'])
    (freshIdsOk_of cfg _ _ lo hi p₂ (fun h => by rw [hb] at h; cases h)
      (fun _ _ _ hm => (idsm ▸ mem_append_left _ hm : _ ∈ m.live.map (·.id)))
      (predictScene_parts h₂).2.1) h₂
  -- job 1 from `m'`, which holds the ids of `a` and the fresh ids of job 2
  have hum' := predictScene_nodup hb hu hm'
  have idsm' := predictScene_liveIds hm'
  obtain ⟨st', hst', V1⟩ := predictScene_view (fun t => !(t.scene == s₂)) ViewRel.eq v₁ hu hum'
    (predictScene_frame _ n₂ hu hm') (by rw [predictScene_epoch hm' s₁, if_neg hne])
    (freshIdsOk_of cfg _ _ lo hi p₁ (fun h => by rw [hb] at h; cases h)
      (fun _ i hi hm => by
        rcases mem_append.mp (idsm' ▸ hm) with hm | hm
        · exact hm
        · exact absurd (idsm ▸ mem_append_right _ hi) (f2 i hm).2.2)
      (predictScene_parts h₁).2.1) h₁
  refine ⟨m', st', hm', hst', (StEq.refl a).of_rest ((predictScene_rest h₂).trans (predictScene_rest h₁))
    ((predictScene_rest hst').trans (predictScene_rest hm')) (fun s => ?_) ?_ ?_⟩
  · simp only [predictScene_epoch h₂, predictScene_epoch hst',
      predictScene_epoch h₁, predictScene_epoch hm', if_neg hne, if_neg hne']
    by_cases x1 : s = s₁
    · subst x1; rw [if_neg hne, if_pos rfl, if_pos rfl]
    · rw [if_neg x1, if_neg x1]
  · -- the tracks of scene s₂ are those job 2 leaves, the others those job 1 leaves, in either order
    have F2 := predictScene_frame _ n₂ hum h₂
    have F4 := predictScene_frame _ n₁ hum' hst'
    have e : st.live.filter (fun t => t.scene == s₂) ++ st.live.filter (fun t => !(t.scene == s₂)) =
        st'.live.filter (fun t => t.scene == s₂) ++ st'.live.filter (fun t => !(t.scene == s₂)) :=
      congr (congrArg _ (V2.symm.trans F4.symm)) (F2.trans V1.symm)
    exact (filter_append_perm _ st.live).symm.trans (e ▸ filter_append_perm _ st'.live)
  · rw [predictScene_nextId h₂, predictScene_nextId h₁,
      predictScene_nextId hst', predictScene_nextId hm']
    simp only [hb]
    exact Nat.add_right_comm _ _ _

theorem batchScenes_congr (cfg : Cfg) (hb : cfg.batchIds = true) (lo hi : Nat)
    (l : List (Nat × List Det × List Entry × List Pick)) (a b : St) (hab : StEq a b)
    (hu : (a.live.map (·.id)).Nodup) (st : St) (out : List (Nat × List Rec))
    (h : batchScenes cfg lo hi l a = some (st, out)) :
    ∃ st₂, batchScenes cfg lo hi l b = some (st₂, out) ∧ StEq st st₂ := by
  induction l generalizing a b out with
  | nil => cases h; exact ⟨b, rfl, hab⟩
  | cons x rest ih =>
    obtain ⟨a', r, out', h1, h2, rfl⟩ := batchScenes_cons cfg lo hi x rest a st out h
    obtain ⟨b', hb1, hab'⟩ := predictScene_congr cfg a b hab hu x.1 x.2.1 x.2.2.1 x.2.2.2 lo hi a' r h1
    have hu' := predictScene_nodup hb hu h1
    obtain ⟨st₂, hb2, hst⟩ := ih a' b' hab' hu' out' h2
    exact ⟨st₂, batchScenes_cons_eq cfg lo hi x rest b b' st₂ r out' hb1 hb2, hst⟩

/-- **The order of the scenes of a batch does not matter**: for any two orders of the same jobs (distinct scenes), if
the batch succeeds in one order it succeeds in the other, every scene gets the same records — the fresh ids being
those given in `picks`, the same in both orders — and the resulting states agree up to order. -/
theorem C06_scene_order (cfg : Cfg) (hb : cfg.batchIds = true) (lo hi : Nat)
    (sc₁ sc₂ : List (Nat × List Det × List Entry × List Pick)) (hperm : sc₁ ~ sc₂)
    (hd : (sc₁.map (·.1)).Nodup) (a : St) (hu : (a.live.map (·.id)).Nodup)
    (st₁ : St) (out₁ : List (Nat × List Rec)) (h : batchScenes cfg lo hi sc₁ a = some (st₁, out₁)) :
    ∃ st₂ out₂, batchScenes cfg lo hi sc₂ a = some (st₂, out₂) ∧ out₁ ~ out₂ ∧ StEq st₁ st₂ := by
  induction hperm generalizing a st₁ out₁ with
  | nil => exact ⟨st₁, out₁, h, Perm.refl _, StEq.refl _⟩
  | cons x _ ih =>
    obtain ⟨a', r, out', h1, h2, rfl⟩ := batchScenes_cons cfg lo hi x _ a st₁ out₁ h
    rw [map_cons, nodup_cons] at hd
    have hu' := predictScene_nodup hb hu h1
    obtain ⟨st₂, out₂, g1, g2, g3⟩ := ih hd.2 a' hu' st₁ out' h2
    exact ⟨st₂, (x.1, r) :: out₂, batchScenes_cons_eq cfg lo hi x _ a a' st₂ r out₂ h1 g1, g2.cons _, g3⟩
  | swap x y l =>
    obtain ⟨m, ry, o1, h1, h2, rfl⟩ := batchScenes_cons cfg lo hi y (x :: l) a st₁ out₁ h
    obtain ⟨st, rx, o2, h3, h4, rfl⟩ := batchScenes_cons cfg lo hi x l m st₁ o1 h2
    have hne : y.1 ≠ x.1 := by
      rw [map_cons, map_cons, nodup_cons] at hd
      exact fun he => hd.1 (he ▸ mem_cons_self)
    obtain ⟨m', st', g1, g2, g3⟩ := predictScene_comm cfg hb a hu y.1 x.1 hne y.2.1 x.2.1 y.2.2.1 x.2.2.1
      y.2.2.2 x.2.2.2 lo hi m st ry rx h1 h3
    have hum := predictScene_nodup hb hu h1
    have hust := predictScene_nodup hb hum h3
    obtain ⟨st₂, g4, g5⟩ := batchScenes_congr cfg hb lo hi l st st' g3 hust st₁ o2 h4
    exact ⟨st₂, (x.1, rx) :: (y.1, ry) :: o2, batchScenes_cons_eq cfg lo hi x (y :: l) a m' st₂ rx _ g1
      (batchScenes_cons_eq cfg lo hi y l m' st' st₂ ry o2 g2 g4), Perm.swap _ _ _, g5⟩
  | trans p1 _ ih1 ih2 =>
    obtain ⟨st₂, out₂, g1, g2, g3⟩ := ih1 hd a hu st₁ out₁ h
    obtain ⟨st₃, out₃, k1, k2, k3⟩ := ih2 (((p1.map (·.1)).nodup_iff).mp hd) a hu st₂ out₂ g1
    exact ⟨st₃, out₃, k1, g2.trans k2, g3.trans k3⟩

/-- **The same for a whole batch call**, countdown and id range included. -/
theorem C06_batch_order (cfg : Cfg) (hb : cfg.batchIds = true)
    (sc₁ sc₂ : List (Nat × List Det × List Entry × List Pick)) (hperm : sc₁ ~ sc₂)
    (hd : (sc₁.map (·.1)).Nodup) (a : St) (hu : (a.live.map (·.id)).Nodup)
    (st₁ : St) (out₁ : List (Nat × List Rec)) (h : predictBatch cfg a sc₁ = some (st₁, out₁)) :
    ∃ st₂ out₂, predictBatch cfg a sc₂ = some (st₂, out₂) ∧ out₁ ~ out₂ ∧ StEq st₁ st₂ := by
  have hsum : (sc₁.map (fun s => s.2.1.length)).foldl (· + ·) 0 = (sc₂.map (fun s => s.2.1.length)).foldl (· + ·) 0 := by
    rw [← sum_eq_foldl_nat, ← sum_eq_foldl_nat]
    exact (hperm.map _).sum_nat
  obtain ⟨s₁, hs₁, rfl⟩ := predictBatch_some_iff.mp h
  rw [hsum] at hs₁ ⊢
  obtain ⟨s₂, o₂, g1, g2, g3⟩ := C06_scene_order cfg hb _ _ sc₁ sc₂ hperm hd (awStep cfg a)
    (awStep_nodup cfg a hu) s₁ out₁ hs₁
  refine ⟨_, o₂, predictBatch_some_iff.mpr ⟨s₂, g1, rfl⟩, g2, ?_⟩
  obtain ⟨x1, x2, x3, _, x5, x6, x7, x8⟩ := g3
  exact ⟨x1, x2, x3, rfl, x5, x6, x7, x8⟩

end SimVerif.C06
