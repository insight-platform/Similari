import SimVerif.Model.BatchProtocol
import SimVerif.Lemmas.List
/-!
# C06 — the batch hand-off protocol: one result per scene, monitor bookkeeping, progress, termination

Model: `SimVerif.BatchProtocol` (one submitted batch: dispatch to voting worker `i % V`, take, send on
the batch's bounded(1) channel, monitor decrement, consumer receive; nothing here speaks of a second submission
while results of the first are unread). All theorems are for every
number of scenes and workers and every schedule (induction over event traces). The data side of the
property (a batch = the per-scene simple steps in any order) is `Props/C06b` and `Hist.C06_refines_simple`.
-/
namespace SimVerif.C06
open SimVerif.BatchProtocol

/-- reachable-state invariant of one batch over the distinct scenes `scenes` -/
structure Inv (scenes : List Nat) (s : PS) : Prop where
  /-- every scene is in exactly one place: not yet sent / in the channel / delivered -/
  place : (pending s ++ s.chan.toList ++ s.delivered).Perm scenes
  /-- the scenes of the dispatched jobs and of the todo list are pairwise distinct -/
  distinct : (s.todo ++ s.jobs.map (·.scene)).Nodup
  /-- the monitor counts the jobs whose decrement is still to come -/
  monitor : s.monitor = undecremented s

theorem setPhase_of_ne (l : List Job) (sc : Nat) (p : Phase) (h : ∀ x ∈ l, x.scene ≠ sc) :
    setPhase l sc p = l := by
  unfold setPhase
  exact (List.map_congr_left fun x hx => if_neg (h x hx)).trans (List.map_id _)

theorem findJob_split {s : PS} {sc : Nat} {j : Job} (hd : (s.jobs.map (·.scene)).Nodup) (hf : findJob s sc = some j)
    (p : Phase) :
    j.scene = sc ∧ ∃ as bs, s.jobs = as ++ j :: bs ∧ setPhase s.jobs sc p = as ++ { j with phase := p } :: bs := by
  obtain ⟨hj, as, bs, hjobs, has⟩ := List.find?_eq_some_iff_append.mp hf
  have hj : j.scene = sc := by simpa using hj
  refine ⟨hj, as, bs, hjobs, ?_⟩
  rw [hjobs, List.map_append, List.map_cons, List.nodup_append] at hd
  have hbs : ∀ x ∈ bs, x.scene ≠ sc := fun x hx e =>
    (List.nodup_cons.mp hd.2.1).1 (hj ▸ e ▸ List.mem_map_of_mem hx)
  have h1 := setPhase_of_ne as sc p fun x hx => by simpa using has x hx
  have h2 := setPhase_of_ne bs sc p hbs
  simp only [setPhase] at h1 h2 ⊢
  simp [hjobs, h1, h2, hj]

/-- the three events that move one job to its next phase have the same shape in `step` -/
theorem step_move {s s' : PS} {sc : Nat} {p : Phase} {G : Job → Prop} [DecidablePred G] {upd : List Job → PS}
    (hd : (s.jobs.map (·.scene)).Nodup)
    (h : (match findJob s sc with
      | some j => if G j then some (upd (setPhase s.jobs sc p)) else none
      | none => none) = some s') :
    ∃ as j bs, s.jobs = as ++ j :: bs ∧ j.scene = sc ∧ G j ∧ s' = upd (as ++ { j with phase := p } :: bs) := by
  split at h
  · rename_i j hf
    split at h
    · rename_i hG
      obtain ⟨hj, as, bs, hjobs, hset⟩ := findJob_split hd hf p
      exact ⟨as, j, bs, hjobs, hj, hG, by rw [← hset]; exact (Option.some.inj h).symm⟩
    · cases h
  · cases h

theorem measure_eq (s : PS) :
    measure s = 10 * s.todo.length + (s.jobs.map (fun j => phaseWeight j.phase)).sum + (if s.chan.isSome then 2 else 0) := by
  rw [BatchProtocol.measure, ← List.sum_eq_foldl]

theorem inv_init (scenes : List Nat) (h : scenes.Nodup) : Inv scenes (init scenes) := by
  constructor
  · simp [init, pending]
  · simpa [init] using h
  · simp [init, undecremented]

/-- a scene stays where it is or moves one place on: not yet sent → channel → delivered -/
theorem step_effect {V : Nat} {s s' : PS} {e : Ev} (hd : (s.jobs.map (·.scene)).Nodup) (hs : step V s e = some s') :
    (pending s' ++ s'.chan.toList ++ s'.delivered).Perm (pending s ++ s.chan.toList ++ s.delivered) ∧
    (s'.todo ++ s'.jobs.map (·.scene)).Perm (s.todo ++ s.jobs.map (·.scene)) ∧
    (s.monitor = undecremented s → s'.monitor = undecremented s') ∧
    measure s' < measure s := by
  cases e with
  | dispatch sc =>
    simp only [step] at hs
    split at hs
    · split at hs
      · rename_i sc' rest ht he
        cases hs; subst he
        refine ⟨?_, ?_, ?_, ?_⟩
        · have move : ∀ A C : List Nat, (rest ++ (A ++ sc' :: C)).Perm (sc' :: (rest ++ (A ++ C))) :=
            fun A C => (List.perm_middle.append_left _).trans List.perm_middle
          simpa [pending, ht, List.filter_append] using move _ _
        · rw [ht, List.map_append, ← List.append_assoc]
          exact List.perm_append_singleton _ _
        · intro hm
          simp [undecremented, List.filter_append, hm, ht]
          omega
        · simp [measure_eq, phaseWeight, ht]
          omega
      · cases hs
    · cases hs
  | take sc =>
    obtain ⟨as, j, bs, hj, -, ⟨hq, -, -⟩, rfl⟩ := step_move (upd := fun l => { s with jobs := l }) hd hs
    -- queued → voting: no scene moves
    refine ⟨?_, ?_, ?_, ?_⟩
    · simp [pending, hj, List.filter_append, hq]
    · simp [hj]
    · simp [undecremented, hj, List.filter_append, hq]
    · simp [measure_eq, phaseWeight, hj, hq]
  | send sc =>
    obtain ⟨as, j, bs, hj, hjs, ⟨hq, hc⟩, rfl⟩ :=
      step_move (upd := fun l => { s with jobs := l, chan := some sc }) hd hs
    refine ⟨?_, ?_, ?_, ?_⟩
    · have move : ∀ A B D : List Nat, (s.todo ++ (A ++ (B ++ sc :: D))).Perm (s.todo ++ (A ++ sc :: (B ++ D))) :=
        fun A B D => (List.perm_middle.append_left _).append_left _
      simpa [pending, hj, hc, List.filter_append, hq, hjs] using move _ _ _
    · simp [hj]
    · simp [undecremented, hj, List.filter_append, hq]
    · simp [measure_eq, phaseWeight, hj, hq, hc]
      omega
  | decr sc =>
    obtain ⟨as, j, bs, hj, -, hq, rfl⟩ :=
      step_move (upd := fun l => { s with jobs := l, monitor := s.monitor - 1 }) hd hs
    -- sent → done: no scene moves, one job fewer awaits its decrement
    refine ⟨?_, ?_, ?_, ?_⟩
    · simp [pending, hj, List.filter_append, hq]
    · simp [hj]
    · intro hm
      simp [undecremented, hj, List.filter_append, hq] at hm ⊢
      omega
    · simp [measure_eq, phaseWeight, hj, hq]
  | recv sc =>
    simp only [step] at hs
    split at hs
    · rename_i hc
      cases hs
      refine ⟨?_, .rfl, id, ?_⟩
      · -- `sc` leaves the channel for the end of `delivered`
        simp only [pending, hc, Option.toList, List.append_nil, List.append_assoc]
        exact ((List.perm_append_singleton sc _).append_left _).append_left _
      · simp [BatchProtocol.measure, hc]
    · cases hs

theorem inv_step (V : Nat) (scenes : List Nat) (s s' : PS) (e : Ev) (h : Inv scenes s)
    (hs : step V s e = some s') : Inv scenes s' :=
  have ⟨h1, h2, h3, _⟩ := step_effect (List.nodup_append.mp h.distinct).2.1 hs
  ⟨h1.trans h.place, h2.nodup_iff.mpr h.distinct, h3 h.monitor⟩

theorem inv_run_from (V : Nat) (scenes : List Nat) (tr : List Ev) (s0 s : PS) (h0 : Inv scenes s0)
    (h : run V s0 tr = some s) : Inv scenes s := by
  induction tr generalizing s0 with
  | nil =>
    simp only [run] at h
    injection h with h; subst h; exact h0
  | cons e es ih =>
    simp only [run] at h
    split at h
    · rename_i s1 hs1
      exact ih s1 (inv_step V scenes s0 s1 e h0 hs1) h
    · simp at h

theorem inv_run (V : Nat) (scenes : List Nat) (hn : scenes.Nodup) (tr : List Ev) (s : PS)
    (h : run V (init scenes) tr = some s) : Inv scenes s :=
  inv_run_from V scenes tr (init scenes) s (inv_init scenes hn) h

/-- In every reachable state the monitor equals the number of jobs of the batch whose
decrement has not happened yet (so the next submission, which waits for `monitor = 0`, waits exactly
for all votes of this batch) -/
theorem C06_monitor (V : Nat) (scenes : List Nat) (hn : scenes.Nodup) (tr : List Ev) (s : PS)
    (h : run V (init scenes) tr = some s) : s.monitor = undecremented s :=
  (inv_run V scenes hn tr s h).monitor

/-- When nothing is left to do, exactly one result per scene of the batch has been
delivered (a permutation of the scenes: each once, none missing, none extra) -/
theorem C06_one_result (V : Nat) (scenes : List Nat) (hn : scenes.Nodup) (tr : List Ev) (s : PS)
    (h : run V (init scenes) tr = some s) (hf : final s) : s.delivered.Perm scenes := by
  have hp := (inv_run V scenes hn tr s h).place
  obtain ⟨ht, hj, hc⟩ := hf
  have hfil : s.jobs.filter (fun j => j.phase = .queued ∨ j.phase = .voting) = [] := by
    rw [List.filter_eq_nil_iff]
    intro a ha
    simp [hj a ha]
  simp only [pending, ht, hc, hfil] at hp
  simpa using hp

/-- Every transition strictly decreases the outstanding work, so no schedule runs
forever (the work starts at `measure (init scenes) = 10 * #scenes`) -/
theorem C06_terminates (V : Nat) (s s' : PS) (e : Ev) (hs : step V s e = some s')
    (hd : (s.todo ++ s.jobs.map (·.scene)).Nodup) : measure s' < measure s :=
  (step_effect (List.nodup_append.mp hd).2.1 hs).2.2.2

theorem findJob_of_mem (s : PS) (j : Job) (hj : j ∈ s.jobs) (hd : (s.jobs.map (·.scene)).Nodup) :
    findJob s j.scene = some j :=
  ListFacts.find?_key_of_nodup Job.scene hd hj

theorem progress_core (V : Nat) (s : PS) (hd : (s.jobs.map (·.scene)).Nodup) (hnf : ¬ final s)
    (hc : s.chan = none) : ∃ e s', step V s e = some s' ∧ (∀ sc, e ≠ .recv sc) := by
  have fire : ∀ e, (∀ sc, e ≠ .recv sc) → (step V s e).isSome → ∃ e s', step V s e = some s' ∧ ∀ sc, e ≠ .recv sc :=
    fun e hne h => ⟨e, _, (Option.some_get h).symm, hne⟩
  -- in this order: something to dispatch; a vote to send; a sent result to count; else the first queued job can be taken
  cases ht : s.todo with
  | cons sc rest => exact fire (.dispatch sc) (by simp) (by simp [step, ht])
  | nil =>
    by_cases hv : ∃ j ∈ s.jobs, j.phase = .voting
    · obtain ⟨j, hj, hjv⟩ := hv
      exact fire (.send j.scene) (by simp) (by simp [step, findJob_of_mem s j hj hd, hjv, hc])
    by_cases hsn : ∃ j ∈ s.jobs, j.phase = .sent
    · obtain ⟨j, hj, hjs⟩ := hsn
      exact fire (.decr j.scene) (by simp) (by simp [step, findJob_of_mem s j hj hd, hjs])
    cases hfq : s.jobs.find? (fun j => j.phase = .queued) with
    | none =>
      refine absurd ⟨ht, fun j hj => ?_, hc⟩ hnf
      cases hph : j.phase with
      | queued => exact absurd (by simpa using hph) (List.find?_eq_none.mp hfq j hj)
      | voting => exact absurd ⟨j, hj, hph⟩ hv
      | sent => exact absurd ⟨j, hj, hph⟩ hsn
      | done => rfl
    | some j0 =>
      obtain ⟨hq0, as, bs, hjobs, has⟩ := List.find?_eq_some_iff_append.mp hfq
      have hq0 : j0.phase = .queued := by simpa using hq0
      have hfind := findJob_of_mem s j0 (by rw [hjobs]; simp) hd
      have hbusy : busy s j0.worker = false := by
        simp only [busy, List.any_eq_false]
        intro x hx
        have h1 : x.phase ≠ .voting := fun h => hv ⟨x, hx, h⟩
        have h2 : x.phase ≠ .sent := fun h => hsn ⟨x, hx, h⟩
        simp [h1, h2]
      -- the first queued job of all is the first queued job of its worker
      have hhead : headOf s j0.worker = some j0 :=
        List.find?_eq_some_iff_append.mpr ⟨by simp [hq0], as, bs, hjobs, fun a ha => by
          have := has a ha
          simp at this
          simp [this]⟩
      exact fire (.take j0.scene) (by simp) (by simp [step, hfind, hq0, hbusy, hhead])

/-- only `send` on a full channel waits for the consumer: while the channel is empty the tracker's own threads can move -/
theorem C06_progress_without_consumer (V : Nat) (hV : 0 < V) (scenes : List Nat) (hn : scenes.Nodup)
    (tr : List Ev) (s : PS) (h : run V (init scenes) tr = some s) (hnf : ¬ final s) (hc : s.chan = none) :
    ∃ e s', step V s e = some s' ∧ (∀ sc, e ≠ .recv sc) := by
  have _ := hV -- not needed: progress holds for every `V`
  have hd := (inv_run V scenes hn tr s h).distinct
  have hdj : (s.jobs.map (·.scene)).Nodup := (List.nodup_append.mp hd).2.1
  exact progress_core V s hdj hnf hc

/-- No deadlock: in every reachable state that is not final some transition is enabled — possibly only the
consumer's `recv`: that results are retrieved is not a hypothesis, it is one of the events that may be the enabled one -/
theorem C06_progress (V : Nat) (hV : 0 < V) (scenes : List Nat) (hn : scenes.Nodup) (tr : List Ev) (s : PS)
    (h : run V (init scenes) tr = some s) (hnf : ¬ final s) : ∃ e s', step V s e = some s' := by
  cases hc : s.chan with
  | some sc => exact ⟨.recv sc, _, (Option.some_get (by simp [step, hc])).symm⟩
  | none =>
    obtain ⟨e, s', hs, -⟩ := C06_progress_without_consumer V hV scenes hn tr s h hnf hc
    exact ⟨e, s', hs⟩

end SimVerif.C06
