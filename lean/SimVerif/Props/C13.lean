import SimVerif.Lemmas.Tracker
import SimVerif.Lemmas.SortKey
/-!
# C13 — bounded galleries and histories: newest kept, lowest quality evicted

Model: `SimVerif.Tracker.{galleryUpdate, featCount, pushBounded, applyPick}` — `VisualMetric::optimize`
/ `optimize_observations`, `update_history` of both attribute kinds.
-/
namespace SimVerif.C13
open SimVerif.Tracker List

def qGE (a b : GE) : Bool := decide (b.quality ≤ a.quality)

/-- the stored-feature part of the old gallery, stably sorted by decreasing quality -/
def keptSorted (old : List GE) : List GE :=
  ((old.filter (fun g => g.feat != 0)).map (fun g => { g with box := false })).mergeSort qGE

/-- what `galleryUpdate` keeps of the old gallery -/
def cut (maxObs : Nat) (old : List GE) : List GE :=
  if (keptSorted old).length ≥ maxObs then (keptSorted old).dropLast else keptSorted old

theorem galleryUpdate_eq (maxObs : Nat) (old : List GE) (new : GE) :
    galleryUpdate maxObs old new =
      (match cut maxObs old with
       | [] => [new]
       | a0 :: rest => new :: rest ++ [a0]) := rfl

theorem galleryUpdate_length (maxObs : Nat) (old : List GE) (new : GE) :
    (galleryUpdate maxObs old new).length = (cut maxObs old).length + 1 := by
  rw [galleryUpdate_eq]
  cases cut maxObs old with
  | nil => rfl
  | cons a0 rest => simp only [length_cons, length_append, length_nil]

theorem mem_cut {maxObs : Nat} {old : List GE} {g : GE} (hg : g ∈ cut maxObs old) : g ∈ keptSorted old := by
  unfold cut at hg
  split at hg
  · exact (dropLast_sublist _).subset hg
  · exact hg

theorem keptSorted_length_le (old : List GE) : (keptSorted old).length ≤ old.length := by
  unfold keptSorted
  rw [(mergeSort_perm _ _).length_eq, length_map]
  exact length_filter_le _ _

/-- **The gallery is bounded**: at most `visual_max_observations` entries in every reachable state. -/
theorem C13_bound (maxObs : Nat) (h1 : 1 ≤ maxObs) (old : List GE) (new : GE) (h : old.length ≤ maxObs) :
    (galleryUpdate maxObs old new).length ≤ maxObs := by
  rw [galleryUpdate_length]
  unfold cut
  split
  · rename_i hge
    rw [length_dropLast]
    exact Nat.sub_one_lt_of_le (Nat.lt_of_lt_of_le h1 hge) (Nat.le_trans (keptSorted_length_le old) h)
  · rename_i hlt
    exact Nat.lt_of_not_le hlt

theorem C13_bound_init (maxObs : Nat) (h1 : 1 ≤ maxObs) (new : GE) : ([new] : List GE).length ≤ maxObs := by simpa using h1

/-- **What survives an update**: the newest observation is first and is the only entry that still
carries its box; every other entry is a stored *feature* of the previous gallery, box dropped. -/
theorem C13_survivors (maxObs : Nat) (old : List GE) (new : GE) :
    (galleryUpdate maxObs old new).head? = some new ∧
    ∀ g ∈ (galleryUpdate maxObs old new).tail, g.box = false ∧ g.feat ≠ 0 ∧
      ∃ g0 ∈ old, g0.feat = g.feat ∧ g0.quality = g.quality := by
  rw [galleryUpdate_eq]
  have hmem : ∀ g ∈ keptSorted old, g.box = false ∧ g.feat ≠ 0 ∧ ∃ g0 ∈ old, g0.feat = g.feat ∧ g0.quality = g.quality := by
    intro g hg
    have := (mergeSort_perm _ _).subset hg
    obtain ⟨g0, hg0, rfl⟩ := mem_map.mp this
    have hf := (mem_filter.mp hg0)
    exact ⟨rfl, by simpa using hf.2, g0, hf.1, rfl, rfl⟩
  cases hc : cut maxObs old with
  | nil => simp
  | cons a0 rest =>
    refine ⟨rfl, ?_⟩
    intro g hg
    have hg : g ∈ rest ++ [a0] := hg
    simp only [mem_append, mem_singleton] at hg
    rcases hg with hg | rfl
    · exact hmem g (mem_cut (hc ▸ mem_cons_of_mem _ hg))
    · exact hmem _ (mem_cut (hc ▸ mem_cons_self))

theorem galleryUpdate_boxes (maxObs : Nat) (old : List GE) (new : GE) :
    ((galleryUpdate maxObs old new).filter (·.box)).length ≤ 1 := by
  obtain ⟨_, ht⟩ := C13_survivors maxObs old new
  generalize galleryUpdate maxObs old new = g at ht
  cases g with
  | nil => simp
  | cons a l =>
    have hl : l.filter (·.box) = [] := by
      rw [filter_eq_nil_iff]
      intro g hg
      simp [(ht g hg).1]
    rw [filter_cons]
    split <;> simp [hl]

/-- **Lowest quality evicted first**: when the stored features already fill the gallery, the entry
that is dropped has a quality no larger than every stored feature that is kept. `hfull` is not used: it says when
`galleryUpdate` drops this entry (`cut`). -/
theorem C13_evict (maxObs : Nat) (old : List GE) (hfull : (keptSorted old).length ≥ maxObs)
    (hne : keptSorted old ≠ []) :
    ∀ g ∈ (keptSorted old).dropLast, ((keptSorted old).getLast hne).quality ≤ g.quality := by
  have hsorted : (keptSorted old).Pairwise (fun a b => b.quality ≤ a.quality) :=
    SortKey.pairwise_mergeSort_desc GE.quality (le := qGE) (fun _ _ => rfl) _
  intro g hg
  have hsplit := dropLast_concat_getLast hne
  rw [← hsplit] at hsorted
  exact (pairwise_append.mp hsorted).2.2 g hg _ (by simp)

theorem updTrk_gallery {cfg : Cfg} (hv : cfg.visual = true) (e : Nat) (d : Det) (vis : Bool) (t : Trk) :
    (C03.updTrk cfg e d vis t).gallery =
      galleryUpdate cfg.maxObs t.gallery { quality := d.quality, feat := if d.collectOk then d.feat else 0, box := true } := by
  simp [C03.updTrk, hv]

theorem updTrk_vcount {cfg : Cfg} (hv : cfg.visual = true) (e : Nat) (d : Det) (vis : Bool) (t : Trk) :
    (C03.updTrk cfg e d vis t).vcount = featCount (C03.updTrk cfg e d vis t).gallery := by
  simp [C03.updTrk, hv]

theorem updTrk_featH {cfg : Cfg} (hv : cfg.visual = true) (e : Nat) (d : Det) (vis : Bool) (t : Trk) :
    (C03.updTrk cfg e d vis t).featH = pushBounded t.featH d.feat cfg.histLen := by
  simp [C03.updTrk, hv]

theorem newTrk_gallery {cfg : Cfg} (hv : cfg.visual = true) (scene e : Nat) (d : Det) (id : Nat) :
    (C03.newTrk cfg scene e d id).gallery = [{ quality := d.quality, feat := d.feat, box := true }] := by
  simp [C03.newTrk, hv]

theorem newTrk_featH {cfg : Cfg} (hv : cfg.visual = true) (scene e : Nat) (d : Det) (id : Nat) :
    (C03.newTrk cfg scene e d id).featH = [d.feat] := by
  simp [C03.newTrk, hv]

/-- **Collected count and collect thresholds** (one pick of a VisualSORT tracker): the reported
count is the number of stored features; a continuing update stores the detection's feature iff it
meets the collect thresholds; a new track keeps its first feature unconditionally. -/
theorem C13_count_collect (cfg : Cfg) (hv : cfg.visual = true) (scene e : Nat) (st st' : St) (d : Det) (p : Pick) (r : Rec)
    (h : applyPick cfg scene e st d p = some (st', r)) :
    (∀ tid vis, p = .cont tid vis → ∃ t t', findLive st tid = some t ∧ t' ∈ st'.live ∧ t'.id = t.id ∧
        t'.gallery = galleryUpdate cfg.maxObs t.gallery { quality := d.quality, feat := if d.collectOk then d.feat else 0, box := true } ∧
        t'.vcount = featCount t'.gallery ∧ t'.featH = pushBounded t.featH d.feat cfg.histLen) ∧
    (∀ id, p = .fresh id → ∃ t' ∈ st'.live, t'.id = id ∧ t'.gallery = [{ quality := d.quality, feat := d.feat, box := true }] ∧
        t'.vcount = featCount t'.gallery ∧ t'.featH = [d.feat]) := by
  obtain ⟨tid, vis, t, rfl, hf, rfl, rfl⟩ | ⟨id, rfl, rfl, rfl⟩ := applyPick_cases h
  · refine ⟨fun _ _ hp => ?_, fun _ hp => (by cases hp)⟩
    cases hp
    refine ⟨t, C03.updTrk cfg e d vis t, hf, mem_map.mpr ⟨t, findLive_mem st tid t hf, ?_⟩, rfl, ?_, ?_, ?_⟩
    · simp [findLive_id st tid t hf]
    · exact updTrk_gallery hv e d vis t
    · exact updTrk_vcount hv e d vis t
    · exact updTrk_featH hv e d vis t
  · refine ⟨fun _ _ hp => (by cases hp), fun _ hp => ?_⟩
    cases hp
    exact ⟨_, mem_append_right _ (mem_singleton_self _), rfl, newTrk_gallery hv scene e d id, rfl, newTrk_featH hv scene e d id⟩

def lastN (n : Nat) (l : List Nat) : List Nat := l.drop (l.length - n)

theorem pushBounded_eq (h : List Nat) (x n : Nat) :
    pushBounded h x n = if 0 < n ∧ n ≤ h.length then (h ++ [x]).drop 1 else h ++ [x] := by
  unfold pushBounded
  simp only [length_append, length_singleton, Bool.and_eq_true, decide_eq_true_eq, Nat.lt_succ_iff]

theorem pushBounded_lastN (n : Nat) (hn : 0 < n) (h : List Nat) (x : Nat) :
    pushBounded (lastN n h) x n = lastN n (h ++ [x]) := by
  unfold lastN
  rw [pushBounded_eq, length_drop, length_append, length_singleton]
  rcases Nat.lt_or_ge h.length n with hc | hc
  · rw [if_neg (fun hh => absurd (Nat.lt_of_le_of_lt (Nat.sub_le _ _) hc) (Nat.not_lt.mpr hh.2)),
      Nat.sub_eq_zero_of_le (Nat.le_of_lt hc), Nat.sub_eq_zero_of_le hc, drop_zero, drop_zero]
  · rw [if_pos ⟨hn, Nat.le_of_eq (Nat.sub_sub_self hc).symm⟩, Nat.sub_add_comm hc, ← drop_drop, drop_append_of_le_length (Nat.sub_le _ _)]

theorem pushBounded_length_le (h : List Nat) (x n : Nat) (hn : 1 ≤ n) (hl : h.length ≤ n) :
    (pushBounded h x n).length ≤ n := by
  rw [pushBounded_eq]
  split
  · rw [length_drop, length_append, length_singleton, Nat.add_sub_cancel]; exact hl
  · rename_i hc
    rw [length_append, length_singleton]
    exact Nat.lt_of_not_le fun hh => hc ⟨hn, hh⟩

theorem pushBounded_length_pos (h : List Nat) (x n : Nat) : 1 ≤ (pushBounded h x n).length := by
  rw [pushBounded_eq]
  split
  · rename_i hc
    rw [length_drop, length_append, length_singleton, Nat.add_sub_cancel]
    exact Nat.le_trans hc.1 hc.2
  · rw [length_append, length_singleton]; exact Nat.le_add_left _ _

/-- **Bounded histories**: after pushing `xs` one by one a history of bound `n > 0` holds exactly the
last `min xs.length n` entries, in arrival order… -/
theorem C13_history (n : Nat) (hn : 0 < n) (xs : List Nat) :
    xs.foldl (fun h x => pushBounded h x n) [] = xs.drop (xs.length - n) := by
  have key : ∀ (xs h : List Nat),
      xs.foldl (fun h x => pushBounded h x n) (lastN n h) = lastN n (h ++ xs) := by
    intro xs
    induction xs with
    | nil => intro h; simp
    | cons x xs ih =>
      intro h
      simp only [foldl_cons]
      rw [pushBounded_lastN n hn, ih]
      simp
  have := key xs []
  simpa [lastN] using this

theorem C13_history_length (n : Nat) (xs : List Nat) : (xs.drop (xs.length - n)).length = min xs.length n := by
  rw [length_drop, Nat.sub_sub_eq_min]

/-- … and its last entry is the one pushed last (the entry echoed in the record). -/
theorem C13_history_last (h : List Nat) (x n : Nat) : (pushBounded h x n).getLast? = some x := by
  unfold pushBounded
  simp only
  split
  · rename_i hc
    cases h with
    | nil => simp at hc; omega
    | cons a t => simp
  · simp

/-! ### non-vacuity: a full gallery of three evicts its lowest quality -/
example : (galleryUpdate 3 [⟨9, 7, false⟩, ⟨5, 11, true⟩, ⟨2, 5, false⟩] ⟨7, 12, true⟩).map (·.feat) = [12, 11, 7] := by
  have hk : keptSorted [⟨9, 7, false⟩, ⟨5, 11, true⟩, ⟨2, 5, false⟩] = [⟨9, 7, false⟩, ⟨5, 11, false⟩, ⟨2, 5, false⟩] := by
    unfold keptSorted
    apply mergeSort_of_pairwise
    decide +kernel
  rw [galleryUpdate_eq, cut, hk]
  rfl

end SimVerif.C13
