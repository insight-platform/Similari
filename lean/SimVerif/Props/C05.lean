import SimVerif.Props.C10
import SimVerif.Props.C03
/-!
# C05 — tracking results are independent of shard count and thread schedule

The tracker model (`SimVerif.Tracker`) does not mention shards at all: the only places where the
shard count and the worker schedule enter are the physical placement of tracks and the order in
which distance results arrive. The theorems say that neither can change what the association sees.
-/
namespace SimVerif.C05
open SimVerif.Tracker SimVerif.Track SimVerif.Store List

variable {α : Type}

/-- **Any shard count partitions the store**: placing tracks by `id % n` and concatenating the
shards is a permutation of the tracks, for every `n > 0`. -/
theorem C05_shards_perm (n : Nat) (hn : 0 < n) (key : α → Nat) (l : List α) :
    ((List.range n).flatMap (fun k => l.filter (fun a => key a % n == k))).Perm l :=
  ListFacts.buckets_perm (fun a => key a % n) n l (fun _ _ => Nat.mod_lt _ hn)

theorem C05_two_shard_counts (n₁ n₂ : Nat) (h1 : 0 < n₁) (h2 : 0 < n₂) (key : α → Nat) (l : List α) :
    ((List.range n₁).flatMap (fun k => l.filter (fun a => key a % n₁ == k))).Perm
    ((List.range n₂).flatMap (fun k => l.filter (fun a => key a % n₂ == k))) :=
  (C05_shards_perm n₁ h1 key l).trans (C05_shards_perm n₂ h2 key l).symm

/-- **Every worker schedule delivers the same distances**: for every shard count and every order in
which the workers' chunks arrive, the collected results are a permutation of the sequential result
(this is `C10_schedule_independent`, restated for the tracker's query with `only_baked = false`). -/
theorem C05_query_perm {TA M OA U Q E : Type} (cb : Cb TA M OA U Q E) (s : Store TA M OA) (h : Shape s)
    (cands : List (Track TA M OA)) (cls : Nat) (arr : List (Track TA M OA × Nat))
    (harr : arr ~ cands.flatMap (fun c => (List.range s.n).map (fun k => (c, k)))) :
    (C10.collect cb s cls false arr).1 ~ (foreignDistances cb s cands cls false).1 :=
  (C10.C10_schedule_independent cb s h cands cls false arr harr).1

theorem C05_stats_total (n₁ n₂ : Nat) (h1 : 0 < n₁) (h2 : 0 < n₂) (l : List Trk) :
    (shardCounts n₁ l).sum = (shardCounts n₂ l).sum := by
  rw [C03.C03_stats n₁ h1, C03.C03_stats n₂ h2]

example : ((List.range 3).flatMap (fun k => [5, 1, 9, 4].filter (fun a => a % 3 == k))) = [9, 1, 4, 5] := by decide

end SimVerif.C05
