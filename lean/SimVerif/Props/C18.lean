import SimVerif.Gen.PyTable
import SimVerif.Gen.PySpec
/-!
# C18 — the Python bindings are a faithful projection of the Rust API

`Gen.pyTable` is regenerated from `/repo/src` on every run (one entry per method / function the
`similari` module exposes, its body classified in the wrapper calculus of `Model/PyBind.lean`);
`Gen.pySpec` is the hand-written specification (`/verif/spec/pyspec.json`).
-/
namespace SimVerif.C18
open SimVerif.PyBind List

/-- **Getters return the field they name.** A well-wired getter either projects the wrapped value
on the field of the same name, or its body is on the reviewed list. -/
theorem C18_getter (sp : Spec) (e : Entry) (h : wellWired sp e = true) (hk : e.kind = .getter) :
    e.shape = .field [e.py] ∨ ∃ hsh, e.shape = .other hsh ∧ (e.cls, e.py, hsh) ∈ sp.reviewed := by
  -- of `h` remain `h.1 : defaultsOk sp e` and `h.2`, what the rule asks of the shape
  cases hs : e.shape <;> simp [wellWired, hs, hk] at h
  case field => exact .inl (by rw [h.2])
  case other => exact .inr ⟨_, rfl, h.2⟩

/-- **Setters write the field they name**, with their one argument. -/
theorem C18_setter (sp : Spec) (e : Entry) (h : wellWired sp e = true) (hk : e.kind = .setter) :
    (∃ a, e.params = [a] ∧ (e.shape = .setField [e.py] a ∨ e.shape = .delegate (S_SET ++ e.py) [.param a])) ∨
    ∃ hsh, e.shape = .other hsh ∧ (e.cls, e.py, hsh) ∈ sp.reviewed := by
  cases hs : e.shape <;> simp [wellWired, hs, hk] at h
  case setField =>
    obtain ⟨_, rfl, hp⟩ := h
    exact .inl ⟨_, hp, .inl rfl⟩
  case delegate =>
    obtain ⟨_, ⟨rfl, rfl⟩, hl⟩ := h
    obtain ⟨a, hp⟩ := length_eq_one_iff.mp hl
    exact .inl ⟨a, hp, .inr (by rw [hp]; rfl)⟩
  case other => exact .inr ⟨_, rfl, h.2⟩

/-- **Delegating methods pass every parameter exactly once, in signature order, to the method of
the same name** (or to a reviewed alias); whatever else they pass is on the reviewed list. -/
theorem C18_delegate (sp : Spec) (e : Entry) (callee : Name) (args : List Arg)
    (h : wellWired sp e = true) (hs : e.shape = .delegate callee args) (hk : e.kind ≠ .setter) :
    args.filterMap paramOf = e.params ∧
    (∀ x ∈ args.filterMap extraOf, (e.cls, e.py, x) ∈ sp.extraArgs) ∧
    (callee = e.py ∨ callee ++ S_PY = e.py ∨ (e.kind = .new ∧ callee = S_NEW) ∨ (e.cls, e.py, callee) ∈ sp.aliases) := by
  -- whatever the kind (a getter never delegates, a setter is excluded), the rule is `calleeOk && argsOk`
  have h2 : (calleeOk sp e callee && argsOk sp e args) = true := by
    unfold wellWired at h
    rw [hs] at h
    cases hkk : e.kind <;> rw [hkk] at h
    case getter => simp at h
    case setter => exact absurd hkk hk
    all_goals exact (Bool.and_eq_true_iff.mp h).2
  simp only [Bool.and_eq_true, calleeOk, argsOk, Bool.or_eq_true, beq_iff_eq, all_eq_true, contains_iff_mem,
    or_assoc] at h2
  exact ⟨h2.2.1, h2.2.2, h2.1⟩

/-- The first conjunct is `denote` unfolded on a `.delegate` shape and holds without `wellWired`; the wiring rule gives the
second: the parameters reach the wrapped API's callee once each, in signature order. -/
theorem C18_denote {V : Type} (sp : Spec) (e : Entry) (callee : Name) (args : List Arg)
    (api : Name → List V → V) (env konst : Name → V)
    (h : wellWired sp e = true) (hs : e.shape = .delegate callee args) (hk : e.kind ≠ .setter) :
    denote api env konst e = some (api callee (evalArgs env konst args)) ∧
    (args.filterMap paramOf).map env = e.params.map env := by
  refine ⟨by simp [denote, hs], ?_⟩
  rw [(C18_delegate sp e callee args h hs hk).1]

/-- **Faithful projection**: if every entry of the table is well wired, the Python view of an object of a class shows,
under every name it shows, the wrapped value's field of that name. (`pyView` is made of the getters that project a
field; a getter whose body is only on the reviewed list has shape `.other` and does not occur in it.) -/
theorem C18_projection {V : Type} (sp : Spec) (tbl : List Entry) (cls : Name) (obj : Name → V)
    (h : ∀ e ∈ tbl, wellWired sp e = true) :
    ∀ p ∈ pyView tbl cls obj, p.2 = obj p.1 := by
  intro p hp
  obtain ⟨q, hq, rfl⟩ := mem_map.mp hp
  obtain ⟨e, he, hf⟩ := mem_filterMap.mp hq
  split at hf
  · rename_i hc
    have hk : e.kind = .getter := by simpa using (Bool.and_eq_true_iff.mp hc).2
    rcases C18_getter sp e (h e he) hk with hs | ⟨hsh, hs, _⟩
    · simp only [fieldOf, hs, Option.map_some, Option.some.injEq] at hf
      subst hf
      rfl
    · simp [fieldOf, hs] at hf
  · cases hf

theorem C18_table : ∀ e ∈ Gen.pyTable, wellWired Gen.pySpec e = true := by
  decide +kernel

/-- `List.isPerm` looks each name up from the front and erases it: one pass while the specification keeps the order of
the source; the two statements below, evaluated as they read, compare every listed name with every entry. -/
theorem exposed_perm_keys : Gen.pySpec.exposed.Perm (Gen.pyTable.map fun e => (e.cls, e.py)) := by
  decide +kernel

theorem C18_complete : ∀ x ∈ Gen.pySpec.exposed, ∃ e ∈ Gen.pyTable, (e.cls, e.py) = x :=
  fun _ hx => mem_map.mp (exposed_perm_keys.mem_iff.mp hx)

theorem C18_no_extra : ∀ e ∈ Gen.pyTable, (e.cls, e.py) ∈ Gen.pySpec.exposed :=
  fun e he => exposed_perm_keys.mem_iff.mpr (mem_map.mpr ⟨e, he, rfl⟩)

theorem C18_current_projection {V : Type} (cls : Name) (obj : Name → V) :
    ∀ p ∈ pyView Gen.pyTable cls obj, p.2 = obj p.1 :=
  C18_projection Gen.pySpec Gen.pyTable cls obj C18_table

/-! ### non-vacuity: the rule rejects a getter wired to another field and a swapped argument order -/
example : wellWired Gen.pySpec
    { cls := [83], py := [101, 112, 111, 99, 104], kind := .getter, params := [], defaults := [],
      shape := .field [[108, 101, 110, 103, 116, 104]] } = false := by decide +kernel
example : wellWired Gen.pySpec
    { cls := [83], py := [102], kind := .method, params := [[97], [98]], defaults := [],
      shape := .delegate [102] [.param [98], .param [97]] } = false := by decide +kernel
example : wellWired Gen.pySpec
    { cls := [83], py := [102], kind := .method, params := [[97], [98]], defaults := [],
      shape := .delegate [102] [.param [97], .param [98]] } = true := by decide +kernel

end SimVerif.C18
