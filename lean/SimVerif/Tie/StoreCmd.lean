import SimVerif.Gen.LStoreCmd
import SimVerif.Model.Store
import SimVerif.Props.C11
import SimVerif.Tie.Map
/-!
# Tie: the commands of the track store's worker loop (`handle_store_ops`)

* `Distances` (`store_distances_cmd`: the `flat_map` closure over the shard with its early `return None` for the candidate itself,
  the `only_baked` branch, the error classification through `downcast_ref`, the loop that splits the answers into two streams)
  = `distPair` for every stored track, hence the two components of `queryOne` over the shard.
* `FindBaked`, `Lookup`, `Merge` are tied to what they compute on one shard, written out in the statements: the bodies of the
  model's `findUsable`, `lookupQ`, `mergeExternal` — except that `FindBaked` reports the shard's key `p.1` where the model
  reports `t.id` — but no theorem here mentions those model functions.

The commands are tied with the model's `distances`, `status`, `merge` as their callees: no theorem composes them with the generated
`track_distances` / `track_merge`.
-/
namespace SimVerif.Tie
open SimVerif.Gen.L SimVerif.Track SimVerif.Store

variable {TA M OA U Q E : Type}

/-- the two lambdas of `queryOne` by name, on one answer; not `C10.okPart`, which is what one stored track contributes -/
def okPart (r : Except (Err E) (List DistOk)) : List DistOk := match r with | .ok d => d | .error _ => []
def isErrR (r : Except (Err E) (List DistOk)) : Bool := match r with | .ok _ => false | .error _ => true

theorem foldl_split (f : List DistOk × List (Except (Err E) (List DistOk)) → Except (Err E) (List DistOk) → List DistOk × List (Except (Err E) (List DistOk)))
    (hf : ∀ st r, f st r = match r with | .ok d => (st.1 ++ d, st.2) | .error e => (st.1, st.2 ++ [.error e]))
    (rs : List (Except (Err E) (List DistOk))) (ds : List DistOk) (es : List (Except (Err E) (List DistOk))) :
    List.foldl f (ds, es) rs = (ds ++ rs.flatMap okPart, es ++ rs.filter isErrR) := by
  induction rs generalizing ds es with
  | nil => simp
  | cons r rest ih =>
    rw [List.foldl_cons, hf]
    cases r <;> (simp only [ih, List.flatMap_cons, okPart, List.filter_cons, isErrR]; simp)

/-- **`Distances`**: for every stored track of the shard what `distPair` answers, split into the ok stream (concatenated) and the
error stream -/
theorem tie_store_distances_cmd (cb : Cb TA M OA U Q E) (shard : List (Nat × Track TA M OA)) (cand : Track TA M OA) (cls : Nat) (ob : Bool) :
    store_distances_cmd (fun (t : Track TA M OA) => t.id) (fun a b c => distances cb a b c) (fun t => status cb t)
        (fun t d => cb.postprocess t.metric d) shard cand cls ob
      = (let rs := (shard.map (·.2)).filterMap (fun o => distPair cb cand o cls ob)
         (rs.flatMap okPart, rs.filter isErrR)) := by
  unfold store_distances_cmd
  dsimp only
  rw [foldl_split _ (by intro st r; cases r <;> rfl)]
  simp only [List.filterMap_map]
  -- the closure of the source, entry by entry, is `distPair`
  suffices h : List.filterMap _ shard = List.filterMap (fun p => distPair cb cand p.2 cls ob) shard by rw [h]; rfl
  congr 1
  funext ⟨k, other⟩
  unfold distPair
  by_cases hid : cand.id = other.id
  · simp [hid]
  · have hb : (cand.id == other.id) = false := by simpa using hid
    cases ob with
    | false =>
      cases hd : distances cb cand other cls with
      | ok d => rfl
      | error e => cases e <;> rfl
    | true =>
      cases hs : status cb other with
      | error e => rfl
      | ok st =>
        cases st with
        | ready =>
          cases hd : distances cb cand other cls with
          | ok d => rfl
          | error e => cases e <;> rfl
        | pending => rfl
        | wasted => rfl

theorem tie_store_distances_queryOne (cb : Cb TA M OA U Q E) (shard : List (Nat × Track TA M OA)) (cand : Track TA M OA) (cls : Nat) (ob : Bool) :
    let r := store_distances_cmd (fun (t : Track TA M OA) => t.id) (fun a b c => distances cb a b c) (fun t => status cb t)
        (fun t d => cb.postprocess t.metric d) shard cand cls ob
    (r.1, r.2.length) = queryOne cb (shard.map (·.2)) cand cls ob := by
  rw [tie_store_distances_cmd]
  rfl

/-- **`FindBaked`** (the per-shard half of `find_usable`): every track of the shard whose status is not `Pending`, with its status
or the error of the status callback -/
theorem tie_store_findbaked_cmd (cb : Cb TA M OA U Q E) (shard : List (Nat × Track TA M OA)) :
    store_findbaked_cmd (fun t => status cb t) shard =
      shard.filterMap (fun p => match status cb p.2 with
        | .ok .pending => none
        | r => some (p.1, r)) := by
  refine congrArg (fun f => List.filterMap f shard) ?_
  funext p
  obtain ⟨k, t⟩ := p
  dsimp only
  cases h : status cb t with
  | error e => rfl
  | ok st => cases st <;> rfl

/-- **`Lookup`**: the tracks of the shard satisfying the query, each with its id and status -/
theorem tie_store_lookup_cmd (cb : Cb TA M OA U Q E) (shard : List (Nat × Track TA M OA)) (q : Q) :
    store_lookup_cmd (fun (t : Track TA M OA) => t.id) (fun t q => lookup cb t q) (fun t => status cb t) shard q =
      ((shard.map (·.2)).filter (fun t => lookup cb t q)).map (fun t => (t.id, status cb t)) := rfl

/-- **`Merge`** (executed by the destination's worker on its shard): a missing destination and a merge of a track into itself are
reported and change nothing; otherwise the destination is merged with the requested classes (all classes of the source when
none are given) and written back; a failing merge leaves the shard exactly as it was -/
theorem tie_store_merge_cmd (cb : Cb TA M OA U Q E) (shard : List (Nat × Track TA M OA)) (dest : Nat) (src : Track TA M OA)
    (classes : List Nat) (flag : Bool) :
    store_merge_cmd (fun (t : Track TA M OA) => t.id) (fun t => t.obs.map (·.1))
        (fun d s c f => ((merge cb d s c f).1, (merge cb d s c f).2.1)) shard dest src classes flag =
      (match mapGet shard dest with
       | none => (.error (.notFound dest), shard)
       | some d =>
         if dest = src.id then (.error (.same dest), shard) else
         match (merge cb d src (mergeClasses (some classes) src) flag).1 with
         | .ok () => (.ok (), mapSet shard dest (merge cb d src (mergeClasses (some classes) src) flag).2.1)
         | .error e => (.error e, shard)) := by
  unfold store_merge_cmd
  dsimp only
  cases hg : mapGet shard dest with
  | none => rfl
  | some d =>
    by_cases hid : dest = src.id
    · simp only [hid, decide_true, if_true]
    · -- whatever class list is merged: a failing merge returns the destination as it was (`C11_merge_atomic`), and writing
      -- that back changes nothing
      have key : ∀ cl : List Nat, ((merge cb d src cl flag).1, mapSet shard dest (merge cb d src cl flag).2.1) =
          (match (merge cb d src cl flag).1 with
           | .ok () => (.ok (), mapSet shard dest (merge cb d src cl flag).2.1)
           | .error e => (.error e, shard)) := fun cl => by
        cases hm : (merge cb d src cl flag).1 with
        | ok u => rfl
        | error e => rw [((C11.C11_merge_atomic cb d src cl flag).1 e hm).1, mapSet_self shard dest d hg]
      simp only [hid, mergeClasses]
      cases classes.isEmpty <;> exact key _

end SimVerif.Tie
