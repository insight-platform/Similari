import SimVerif.Gen.LTrack
import SimVerif.Gen.LTrackDist
import SimVerif.Gen.LTrackBuild
import SimVerif.Lemmas.Track
import SimVerif.Lemmas.List
/-!
# Tie: `Track::add_observation`, `Track::merge`, `Track::distances`, `TrackBuilder::build`
(`SimVerif.Gen.L.track_add_observation`, `track_merge`, `track_distances`, `track_build`, regenerated on every run: early returns,
`res?; unreachable!()` error exits, snapshots and their restoration, `get_mut` borrows of the observation table written through)
= `addObservation`, `merge`, `distances`, `build` of `Model/Track.lean`.

The user callbacks mutate their arguments in place and may fail half-way: in the generated definitions a callback returns its
`Result` **and** whatever it left in the places it was given. The ties are proved for callbacks that on failure leave
**arbitrary** values there (`junk`): that the source restores its snapshots correctly is proved, not assumed.
-/
namespace SimVerif.Tie
open SimVerif.Gen.L SimVerif.Track

variable {TA M A F U Q E : Type}

theorem dbGet_eq_getObs {β : Type} (obs : List (Nat × List β)) (c : Nat) : dbGet obs c = getObs obs c := rfl
theorem dbSet_eq_setObs {β : Type} (obs : List (Nat × List β)) (c : Nat) (v : List β) : dbSet obs c v = setObs obs c v := rfl

abbrev ObsDb (A F : Type) := List (Nat × List (Option A × Option F))
abbrev MergeRet (TA M A F E : Type) := Except E Unit × TA × ObsDb A F × M × List Nat × Nat

/-- the attribute-update callback in the shape the source sees it (`Result` and the attributes it leaves behind) -/
def applyOf (cb : Cb TA M (Option A × Option F) U Q E) (junk : U → TA → TA) (u : U) (a : TA) : Except E Unit × TA :=
  match cb.apply u a with
  | .ok a' => (.ok (), a')
  | .error e => (.error e, junk u a)

def optimizeOf (cb : Cb TA M (Option A × Option F) U Q E)
    (junk : M → Nat → List Nat → TA → List (Option A × Option F) → Nat → Bool → M × TA × List (Option A × Option F))
    (m : M) (c : Nat) (h : List Nat) (a : TA) (l : List (Option A × Option F)) (p : Nat) (b : Bool) :
    Except E Unit × M × TA × List (Option A × Option F) :=
  match cb.optimize m c h a l p b with
  | .ok (m', a', l') => (.ok (), m', a', l')
  | .error e => (.error e, junk m c h a l p b)

def liftErr (r : Except E Unit) : Except (Err E) Unit :=
  match r with
  | .ok () => .ok ()
  | .error e => .error (.cb e)

theorem liftErr_ok : liftErr (.ok () : Except E Unit) = .ok () := rfl
theorem liftErr_error (e : E) : liftErr (.error e : Except E Unit) = .error (.cb e) := rfl

/-! What the source does once the attributes are updated is the function itself, called with an update that succeeds with the
attributes reached: the snapshot it restores on a later failure stays `attrs`, the attributes of before. -/
section
variable (applyU : U → TA → Except E Unit × TA)
  (optimize : M → Nat → List Nat → TA → List (Option A × Option F) → Nat → Bool → Except E Unit × M × TA × List (Option A × Option F))
  (attrs : TA) (obs : ObsDb A F) (metric : M) (hist : List Nat) (notes cls : Nat)
  (fa : Option A) (f : Option F)

theorem gen_add_none :
    track_add_observation applyU optimize attrs obs metric hist notes cls fa f none =
      track_add_observation (fun (_ : Unit) _ => (.ok (), attrs)) optimize attrs obs metric hist notes cls fa f (some ()) := by
  unfold track_add_observation
  rfl

theorem gen_add_some (u : U) :
    track_add_observation applyU optimize attrs obs metric hist notes cls fa f (some u) =
      (if isErr (applyU u attrs).1 then ((applyU u attrs).1, attrs, obs, metric, notes) else
        track_add_observation (fun (_ : Unit) _ => (.ok (), (applyU u attrs).2)) optimize attrs obs metric hist notes cls fa f
          (some ())) := by
  unfold track_add_observation
  rfl
end

theorem tie_add_updated (cb : Cb TA M (Option A × Option F) U Q E)
    (junkO : M → Nat → List Nat → TA → List (Option A × Option F) → Nat → Bool → M × TA × List (Option A × Option F))
    (t : Track TA M (Option A × Option F)) (cls : Nat) (fa : Option A) (f : Option F) (notes : Nat) (a : TA) :
    let r' := track_add_observation (fun (_ : Unit) _ => (.ok (), a)) (optimizeOf cb junkO) t.attrs t.obs t.metric t.hist notes
      cls fa f (some ())
    let m' := addObservation (updated cb a) t cls (if f.isNone && fa.isNone then none else some (fa, f)) (some ())
    m'.1 = liftErr r'.1 ∧ m'.2.1 = { t with attrs := r'.2.1, obs := r'.2.2.1, metric := r'.2.2.2.1 } ∧ r'.2.2.2.2 = notes + m'.2.2 := by
  unfold track_add_observation addObservation
  by_cases hn : (f.isNone && fa.isNone) = true
  · simp [hn, liftErr, isErr, updated]
  · have hn' : (f.isNone && fa.isNone) = false := Bool.eq_false_iff.mpr hn
    simp only [hn', Bool.false_eq_true, if_false, dbGet_eq_getObs, dbSet_eq_setObs, dbGetD, isErr, updated]
    -- the source writes the class, reads it back (`dbGetD`), optimises and writes again: `getObs_setObs` and `setObs_setObs`
    -- collapse that to the model's one write
    cases hg : getObs t.obs cls with
    | none =>
      simp only [getObs_setObs, Option.getD_some, Option.getD_none, List.nil_append, List.length_singleton,
        Nat.sub_self, List.length_nil, optimizeOf, setObs_setObs]
      cases ho : cb.optimize t.metric cls t.hist a [(fa, f)] 0 false with
      | error e => simp [liftErr]
      | ok v => obtain ⟨m1, a1, l1⟩ := v; simp [liftErr]
    | some cur =>
      simp only [getObs_setObs, Option.getD_some, List.length_append, List.length_singleton,
        Nat.add_sub_cancel, optimizeOf, setObs_setObs]
      cases ho : cb.optimize t.metric cls t.hist a (cur ++ [(fa, f)]) cur.length false with
      | error e => simp [liftErr]
      | ok v => obtain ⟨m1, a1, l1⟩ := v; simp [liftErr]

/-- **`Track::add_observation` of the source is the model's `addObservation`**, for every family of callbacks and whatever a
failing callback leaves behind: same result, same track afterwards (attributes, observation table, metric; history and id
are not touched), same number of notifications -/
theorem tie_track_add_observation (cb : Cb TA M (Option A × Option F) U Q E) (junkA : U → TA → TA)
    (junkO : M → Nat → List Nat → TA → List (Option A × Option F) → Nat → Bool → M × TA × List (Option A × Option F))
    (t : Track TA M (Option A × Option F)) (cls : Nat) (fa : Option A) (f : Option F) (u : Option U) (notes : Nat) :
    let r := track_add_observation (applyOf cb junkA) (optimizeOf cb junkO) t.attrs t.obs t.metric t.hist notes cls fa f u
    let m := addObservation cb t cls (if f.isNone && fa.isNone then none else some (fa, f)) u
    m.1 = liftErr r.1 ∧ m.2.1 = { t with attrs := r.2.1, obs := r.2.2.1, metric := r.2.2.2.1 } ∧ r.2.2.2.2 = notes + m.2.2 := by
  cases u with
  | none =>
    rw [gen_add_none, addObservation_eq_updated cb t]
    exact tie_add_updated cb junkO t cls fa f notes t.attrs
  | some u =>
    rw [gen_add_some, addObservation_eq_updated cb t]
    cases ha : cb.apply u t.attrs with
    | error e => simp [applyOf, ha, isErr, liftErr]
    | ok a =>
      simp only [applyOf, ha, isErr, Bool.false_eq_true, if_false]
      exact tie_add_updated cb junkO t cls fa f notes a

def mergeOf (cb : Cb TA M (Option A × Option F) U Q E) (junk : TA → TA → TA) (a b : TA) : Except E Unit × TA :=
  match cb.mergeA a b with
  | .ok a' => (.ok (), a')
  | .error e => (.error e, junk a b)

/-- one iteration of the class loop of the source's `merge`: the generated fold body after reducing the `match` on
`prev_length`; `gen_merge` checks it by `rfl` -/
def mergeStepGen (optimize : M → Nat → List Nat → TA → List (Option A × Option F) → Nat → Bool → Except E Unit × M × TA × List (Option A × Option F))
    (last_attributes : TA) (last_observations : ObsDb A F) (last_metric : M) (hist : List Nat) (notes : Nat)
    (other_obs : ObsDb A F) (new_merge_history : List Nat)
    (st : Sum (MergeRet TA M A F E) (TA × ObsDb A F × M × Bool)) (cls : Nat) : Sum (MergeRet TA M A F E) (TA × ObsDb A F × M × Bool) :=
  match st with
  | Sum.inl r => Sum.inl r
  | Sum.inr (attributes, obs_db, metric, merged_any) =>
    let src := dbGet other_obs cls
    match (dbGet obs_db cls, src) with
    | (some dest_observations, some src_observations) =>
      let prev_length := dest_observations.length
      let dest_observations := dest_observations ++ src_observations
      let obs_db := dbSet obs_db cls dest_observations
      let e3 := dbGetD obs_db cls
      let (res, metric', attributes', e3) := optimize metric cls new_merge_history attributes e3 prev_length true
      let obs_db := dbSet obs_db cls e3
      if isErr res then Sum.inl (res, last_attributes, last_observations, last_metric, hist, notes)
      else Sum.inr (attributes', obs_db, metric', true)
    | (none, some src_observations) =>
      let obs_db := dbSet obs_db cls src_observations
      let e3 := dbGetD obs_db cls
      let (res, metric', attributes', e3) := optimize metric cls new_merge_history attributes e3 0 true
      let obs_db := dbSet obs_db cls e3
      if isErr res then Sum.inl (res, last_attributes, last_observations, last_metric, hist, notes)
      else Sum.inr (attributes', obs_db, metric', true)
    | (some dest_observations, none) =>
      let prev_length := dest_observations.length
      let e3 := dbGetD obs_db cls
      let (res, metric', attributes', e3) := optimize metric cls new_merge_history attributes e3 prev_length true
      let obs_db := dbSet obs_db cls e3
      if isErr res then Sum.inl (res, last_attributes, last_observations, last_metric, hist, notes)
      else Sum.inr (attributes', obs_db, metric', true)
    | _ => Sum.inr (attributes, obs_db, metric, merged_any)

/-- the generated `track_merge` is: attribute merge (restored on failure), the fold of `mergeStepGen`, the history installed when
some class was merged, one notification -/
theorem gen_merge (mergeA : TA → TA → Except E Unit × TA)
    (optimize : M → Nat → List Nat → TA → List (Option A × Option F) → Nat → Bool → Except E Unit × M × TA × List (Option A × Option F))
    (attributes : TA) (obs_db : ObsDb A F) (metric : M) (hist : List Nat) (notes : Nat)
    (other_attributes : TA) (other_obs : ObsDb A F) (other_hist : List Nat) (classes : List Nat) (flag : Bool) :
    track_merge mergeA optimize attributes obs_db metric hist notes other_attributes other_obs other_hist classes flag =
      (if isErr (mergeA attributes other_attributes).1 then ((mergeA attributes other_attributes).1, attributes, obs_db, metric, hist, notes)
       else
        let nh := if flag then hist ++ other_hist else hist
        match List.foldl (mergeStepGen optimize attributes obs_db metric hist notes other_obs nh)
            (Sum.inr ((mergeA attributes other_attributes).2, obs_db, metric, false)) classes with
        | Sum.inl r => r
        | Sum.inr (a, o, m, any) => (Except.ok (), a, o, m, (if any then nh else hist), notes + 1)) := by
  unfold track_merge
  rfl

def reprSt (st : MState TA M (Option A × Option F)) : TA × ObsDb A F × M × Bool := (st.attrs, st.obs, st.metric, st.any)

/-- a callback failure leaves the loop with the error and the three snapshots, whatever the callback left behind -/
theorem tie_merge_loop (cb : Cb TA M (Option A × Option F) U Q E)
    (junkO : M → Nat → List Nat → TA → List (Option A × Option F) → Nat → Bool → M × TA × List (Option A × Option F))
    (la : TA) (lo : ObsDb A F) (lm : M) (hist : List Nat) (notes : Nat) (src : Track TA M (Option A × Option F)) (nh : List Nat)
    (classes : List Nat) (st : MState TA M (Option A × Option F)) :
    List.foldl (mergeStepGen (optimizeOf cb junkO) la lo lm hist notes src.obs nh) (Sum.inr (reprSt st)) classes =
      (match mergeLoop cb src nh classes st with
       | .ok st' => Sum.inr (reprSt st')
       | .error e => Sum.inl (.error e, la, lo, lm, hist, notes)) := by
  induction classes generalizing st with
  | nil => rfl
  | cons c rest ih =>
    rw [List.foldl_cons, mergeLoop]
    rcases h1 : getObs st.obs c with _ | d <;> rcases h2 : getObs src.obs c with _ | s
    · simpa [mergeStepGen, reprSt, dbGet_eq_getObs, h1, h2] using ih st
    all_goals
      simp only [mergeStepGen, reprSt, dbGet_eq_getObs, dbSet_eq_setObs, dbGetD, h1, h2, optimizeOf, getObs_setObs,
        Option.getD_some]
      split
      · next m' a' l' ho => simp only [ho, isErr, Bool.false_eq_true, if_false]; exact ih ⟨a', _, m', true⟩
      · next e ho => simp only [ho, isErr, if_true]; exact ListFacts.foldl_inl _ (fun _ _ => rfl) _ rest

/-- **`Track::merge` of the source is the model's `merge`**, for every family of callbacks, every class list and both flag values,
whatever a failing callback leaves behind: same result, same destination afterwards (attributes, observation table, metric,
merge history), same number of notifications -/
theorem tie_track_merge (cb : Cb TA M (Option A × Option F) U Q E) (junkA : TA → TA → TA)
    (junkO : M → Nat → List Nat → TA → List (Option A × Option F) → Nat → Bool → M × TA × List (Option A × Option F))
    (dst src : Track TA M (Option A × Option F)) (classes : List Nat) (flag : Bool) (notes : Nat) :
    let r := track_merge (mergeOf cb junkA) (optimizeOf cb junkO) dst.attrs dst.obs dst.metric dst.hist notes
      src.attrs src.obs src.hist classes flag
    let m := merge cb dst src classes flag
    m.1 = liftErr r.1 ∧
      m.2.1 = { id := dst.id, attrs := r.2.1, obs := r.2.2.1, metric := r.2.2.2.1, hist := r.2.2.2.2.1 } ∧
      r.2.2.2.2.2 = notes + m.2.2 := by
  simp only [gen_merge]
  unfold merge
  cases ha : cb.mergeA dst.attrs src.attrs with
  | error e =>
    have h1 : mergeOf cb junkA dst.attrs src.attrs = (.error e, junkA dst.attrs src.attrs) := by simp only [mergeOf, ha]
    simp only [h1, isErr, if_true, liftErr]
    trivial
  | ok a =>
    have h1 : mergeOf cb junkA dst.attrs src.attrs = (.ok (), a) := by simp only [mergeOf, ha]
    simp only [h1, isErr, Bool.false_eq_true, if_false]
    have hl := tie_merge_loop cb junkO dst.attrs dst.obs dst.metric dst.hist notes src
      (if flag then dst.hist ++ src.hist else dst.hist) classes { attrs := a, obs := dst.obs, metric := dst.metric, any := false }
    simp only [reprSt] at hl
    rw [hl]
    cases hm : mergeLoop cb src (if flag then dst.hist ++ src.hist else dst.hist) classes
        { attrs := a, obs := dst.obs, metric := dst.metric, any := false } with
    | error e => simp [liftErr]
    | ok st => simp [liftErr]

theorem filterMap_cartProd {α β γ : Type} (f : α × β → Option γ) (l : List α) (r : List β) :
    List.filterMap f (cartProd l r) = l.flatMap (fun a => r.filterMap (fun b => f (a, b))) := by
  unfold cartProd
  induction l with
  | nil => rfl
  | cons a rest ih =>
    simp only [List.flatMap_cons, List.filterMap_append, ih, List.filterMap_map]
    rfl

/-- **`Track::distances` of the source is the model's `distances`**: incompatible attributes are an error of their own, a class
missing on either side is the missing-class error, otherwise exactly one result per pair of observations (left-major) for which
the metric yields a value -/
theorem tie_track_distances {OA : Type} (cb : Cb TA M OA U Q E) (t other : Track TA M OA) (cls : Nat) :
    track_distances (M := M) cb.compatible (fun (x : Nat × TA × OA × TA × OA) => cb.metric x.1 x.2.1 x.2.2.1 x.2.2.2.1 x.2.2.2.2)
        t.id t.attrs t.obs other.id other.attrs other.obs cls
      = distances cb t other cls := by
  unfold track_distances distances
  by_cases hc : cb.compatible t.attrs other.attrs = true
  · simp only [hc, Bool.not_true, Bool.false_eq_true, if_false, dbGet_eq_getObs]
    cases getObs t.obs cls with
    | none => rfl
    | some l =>
      cases getObs other.obs cls with
      | none => rfl
      | some r =>
        simp only [filterMap_cartProd]
        congr 1
        refine congrArg (fun f => List.flatMap f l) ?_
        funext a
        refine congrArg (fun f => List.filterMap f r) ?_
        funext b
        cases cb.metric cls t.attrs a other.attrs b <;> rfl
  · have hc' : cb.compatible t.attrs other.attrs = false := Bool.eq_false_iff.mpr hc
    simp [hc']

/-- **`TrackBuilder::build` of the source is the model's `build`**: a fresh track, then every queued observation through
`add_observation`, stopping at the first refusal — for a builder given its metric, attributes and notifier as plain values
(the `unwrap`s of an incompletely configured builder are not in `track_build`), and for the result only, not the notification
count -/
theorem tie_track_build {OA N : Type} (cb : Cb TA M OA U Q E) {A F : Type} (obsOf : Option A → Option F → Option OA)
    (id : Nat) (m : M) (a : TA) (nt : N) (obs : List (Nat × Option A × Option F × Option U)) :
    track_build (fun id m a (_ : N) => (Track.new (OA := OA) id m a).1)
        (fun t c oa f u => ((addObservation cb t c (obsOf oa f) u).1, (addObservation cb t c (obsOf oa f) u).2.1)) id m a nt obs
      = (build cb id m a (obs.map (fun x => (x.1, obsOf x.2.1 x.2.2.1, x.2.2.2)))).1 := by
  unfold track_build build
  dsimp only
  -- from any track and any count of notifications
  generalize (Track.new (OA := OA) id m a).1 = t
  generalize (Track.new (OA := OA) id m a).2 = n
  induction obs generalizing t n with
  | nil => rfl
  | cons x rest ih =>
    obtain ⟨c, oa, f, u⟩ := x
    rw [List.foldl_cons, List.map_cons, buildLoop]
    dsimp only
    rcases addObservation cb t c (obsOf oa f) u with ⟨_ | ⟨⟨⟩⟩, t', k⟩
    · rw [ListFacts.foldl_inl _ (fun r ⟨_, _, _, _⟩ => rfl)]
    · exact ih t' (n + k)

/-- non-vacuity: a failing optimisation after a successful attribute update; the source's answer is the error and the
track as it was, although the callbacks left other values behind -/
example : track_add_observation (U := Nat) (fun u (a : Nat) => (Except.ok (), a + u))
    (fun (m : Nat) _ _ (a : Nat) (l : List (Option Nat × Option Nat)) _ _ => ((Except.error "no" : Except String Unit), m + 1, a + 100, l ++ l))
    5 [(0, [(some 1, none)])] 7 [1] 0 0 (some 2) none (some 3)
    = (Except.error "no", 5, [(0, [(some 1, none)])], 7, 0) := by rfl

end SimVerif.Tie
