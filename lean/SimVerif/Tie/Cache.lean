import SimVerif.Gen.KCache
import SimVerif.Tie.Box
import SimVerif.Tie.Clip
/-!
# Tie: `Universal2DBox::intersection` with the private vertex cache
(`Clone for Universal2DBox` — through `new_with_confidence`, which leaves the cache empty —, `get_cached_vertices`, `gen_vertices`,
`rotate_mut`, and `intersection` itself: too-far test, clone both boxes, generate the vertices of a box whose cache is empty,
clip, area; regenerated on every run).

**The cache of the arguments is never read**: whatever vertices a box carries, the reported intersection is the area of the
clip of the polygons generated from the boxes' current fields, and that is the model's `Geom.intersection`. In the generated
`intersection` the clip's callees and the area are the model's `isInside`, `computeIntersection`, `polyArea`, written by name
(see `Tie/Clip.lean`); the positivity `assert!`s of `intersection` and the confidence-range `assert!` of `new_with_confidence`
are not hypotheses of `tie_u_intersection`, `tie_cbox_clone`.
-/
set_option linter.unusedSectionVars false
namespace SimVerif.Tie
open SimVerif.Geom SimVerif.Gen.K
variable {α : Type} [Field α] [LinearOrder α]

theorem tie_cbox_clone (b : CBox α) : (cbox_clone b).cache = none ∧ toU (cbox_clone b) = toU b := ⟨rfl, rfl⟩

theorem tie_cbox_gen_vertices (cos sin : α → α) (b : CBox α) :
    (cbox_gen_vertices cos sin b).cache = (if b.angle.isSome then some (closeRing (Gen.K.vertices cos sin (toU b))) else b.cache) ∧
    toU (cbox_gen_vertices cos sin b) = toU b := by
  unfold cbox_gen_vertices
  cases h : b.angle <;> simp [toU, h]

/-- the clone's cache is empty, so the box is rotated to its angle (0 if it has none) and, having an angle now, is given the
polygon of its current fields -/
theorem prepared_cache (cos sin : α → α) (b : CBox α) :
    cbox_get_cached_vertices
      (if (cbox_get_cached_vertices (cbox_clone b)).isNone then
        cbox_gen_vertices cos sin (cbox_rotate_mut (cbox_clone b) ((cbox_clone b).angle.getD 0)) else cbox_clone b)
      = some (closeRing (Gen.K.vertices cos sin { toU b with angle := some (b.angle.getD 0) })) := by
  rw [cbox_get_cached_vertices, cbox_get_cached_vertices, (tie_cbox_clone b).1, Option.isNone_none, if_pos rfl,
    (tie_cbox_gen_vertices cos sin _).1, cbox_rotate_mut, Option.isSome_some, if_pos rfl]
  rfl

theorem tie_u_intersection_cache (sqrt cos sin : α → α) (l r : CBox α) :
    u_intersection sqrt cos sin l r =
      (if Gen.K.too_far sqrt (toU l) (toU r) then 0 else
        polyArea (Gen.K.sutherland_hodgman_clip
          (closeRing (Gen.K.vertices cos sin { toU l with angle := some (l.angle.getD 0) }))
          (closeRing (Gen.K.vertices cos sin { toU r with angle := some (r.angle.getD 0) })))) := by
  simp only [u_intersection, prepared_cache, Option.getD_some]

theorem dropLast_closeRing (l : List (Pt α)) : (closeRing l).dropLast = l := by
  cases l with
  | nil => rfl
  | cons p rest =>
    show ((p :: rest) ++ [p]).dropLast = p :: rest
    rw [List.dropLast_concat]

/-- the source's `intersection` is the model's, at the cosines and sines of the boxes' angles. `htf` is discharged over ℝ by
`tie_too_far` and `C08_toofar_sqrtfree`. -/
theorem tie_u_intersection (sqrt cos sin : α → α) (l r : CBox α)
    (htf : Gen.K.too_far sqrt (toU l) (toU r) = tooFar (toU l) (toU r)) :
    u_intersection sqrt cos sin l r =
      intersection (toU l) (toU r) (cos (l.angle.getD 0)) (sin (l.angle.getD 0)) (cos (r.angle.getD 0)) (sin (r.angle.getD 0)) := by
  rw [tie_u_intersection_cache, htf]
  rw [tie_sutherland_hodgman_clip, dropLast_closeRing, dropLast_closeRing, tie_vertices, tie_vertices]
  rfl

theorem tie_u_intersection_cache_irrelevant (sqrt cos sin : α → α) (l l' r r' : CBox α) (hl : toU l = toU l') (hr : toU r = toU r') :
    u_intersection sqrt cos sin l r = u_intersection sqrt cos sin l' r' := by
  have el : l.angle = l'.angle := congrArg UBox.angle hl
  have er : r.angle = r'.angle := congrArg UBox.angle hr
  rw [tie_u_intersection_cache, tie_u_intersection_cache, hl, hr, el, er]

end SimVerif.Tie
