import SimVerif.Gen.LNms
import SimVerif.Model.Nms
import SimVerif.Tie.Map
import Mathlib.Tactic.NormNum
/-!
# Tie: `nms` of src/utils/nms.rs (`SimVerif.Gen.L.nms`, regenerated on every run: the pipeline `filter / enumerate /
map(Candidate::new) / sorted_by`, the excluded-set double loop with its `continue`s over `&nms_boxes[index + 1..]`, the
final `filter / map`) = `Nms.nms`, with `covers a b := intersection(a, b) / area(b) > nms_threshold`.
-/
namespace SimVerif.Tie
open SimVerif.Gen.L SimVerif.Nms

variable {α : Type}

/-- what the source reads of a model box -/
def toN (b : Box α) : NBox α := { item := b.item, height := b.height, aspect := b.aspect }
def toC (c : Box α × Nat) : Candidate α := { bbox := toN c.1, rank := rank c.1, index := c.2 }
def covOf (inter : NBox α → NBox α → Rat) (area : NBox α → Rat) (thr : Rat) (a b : Box α) : Bool :=
  decide (inter (toN a) (toN b) / area (toN b) > thr)

theorem candidates_map (sthr : Option Rat) (l : List (Box α)) (p : NBox α × Option Rat → Bool)
    (mk : Nat × NBox α × Option Rat → Candidate α) (le : Candidate α → Candidate α → Bool)
    (hp : ∀ b : Box α, p (toN b, b.score) = passes sthr b)
    (hmk : ∀ c : Box α × Nat, mk (c.2, toN c.1, c.1.score) = toC c)
    (hle : ∀ a b : Box α × Nat, le (toC a) (toC b) = rankGE a.1 b.1) :
    List.mergeSort (List.map mk (enumerateL (List.filter p (l.map fun b => (toN b, b.score))))) le =
      (sortedCands sthr l).map toC := by
  unfold sortedCands enumerateL
  rw [List.filter_map, show p ∘ (fun b : Box α => (toN b, b.score)) = passes sthr from funext hp,
    List.zipIdx_map, List.map_map, List.map_map,
    show (mk ∘ fun q : (NBox α × Option Rat) × Nat => (q.2, q.1)) ∘ Prod.map (fun b : Box α => (toN b, b.score)) id = toC
      from funext hmk]
  exact (List.map_mergeSort fun a _ b _ => (hle a b).symm).symm

/-- the inner loop (`for ob in &nms_boxes[index + 1..]` with its `continue`) is the model's `inner` -/
theorem foldl_inner (cov : Box α → Box α → Bool) (cb : Box α × Nat) (f : List Nat → Candidate α → List Nat)
    (hf : ∀ ex ob, f ex (toC ob) = if ex.contains ob.2 then ex else if cov cb.1 ob.1 then ob.2 :: ex else ex)
    (obs : List (Box α × Nat)) (ex : List Nat) :
    List.foldl f ex (obs.map toC) = inner cov cb obs ex := by
  induction obs generalizing ex with
  | nil => rfl
  | cons ob rest ih =>
    rw [List.map_cons, List.foldl_cons, hf, inner]
    split
    · exact ih ex
    · split <;> exact ih _

/-- the outer loop (`for (index, cb) in nms_boxes.iter().enumerate()`, reading the candidates after position `index`)
is the model's structural `outer` -/
theorem foldl_outer (cov : Box α → Box α → Bool) (full : List (Box α × Nat)) (g : List Nat → Candidate α × Nat → List Nat)
    (hg : ∀ ex c k, g ex (toC c, k) = if ex.contains c.2 then ex else inner cov c (full.drop (k + 1)) ex)
    (pre suf : List (Box α × Nat)) (h : full = pre ++ suf) {n : Nat} (hn : n = pre.length) (ex : List Nat) :
    List.foldl g ex ((suf.map toC).zipIdx n) = outer cov suf ex := by
  subst hn
  induction suf generalizing pre ex with
  | nil => rfl
  | cons cb rest ih =>
    simp only [List.map_cons, List.zipIdx_cons, List.foldl_cons, outer, hg]
    have hd : full.drop (pre.length + 1) = rest := by rw [h, List.drop_length_add_append]; rfl
    rw [hd]
    have ih' := ih (pre ++ [cb]) (by rw [h, List.append_assoc]; rfl)
    rw [List.length_append, List.length_singleton] at ih'
    split <;> exact ih' _

theorem tie_nms (inter : NBox α → NBox α → Rat) (area : NBox α → Rat) (thr : Rat) (sthr : Option Rat) (l : List (Box α)) :
    Gen.L.nms inter area (l.map (fun b => (toN b, b.score))) thr sthr
      = (Nms.nms (covOf inter area thr) sthr l).map toN := by
  unfold Gen.L.nms Nms.nms
  dsimp only
  rw [candidates_map sthr l _ _ _ (fun _ => rfl) (fun _ => rfl) fun a b => by simp only [cmpQ_ne_gt, rankGE, toC]]
  generalize sortedCands sthr l = cs
  rw [foldl_outer (covOf inter area thr) cs _ ?_ [] cs rfl (n := 0) rfl, List.filter_map, List.map_map, List.map_map]
  · rfl
  · intro ex c k
    by_cases h1 : ex.contains c.2 = true
    · exact (if_pos h1).trans (if_pos h1).symm
    · refine (if_neg h1).trans (.trans ?_ (if_neg h1).symm)
      rw [← List.map_drop]
      exact foldl_inner (covOf inter area thr) c _ (fun _ _ => rfl) _ _

/-- non-vacuity of the coverage reading: with `inter = area` (a box lying inside the other) and threshold 1/2 the pair is covering -/
example : covOf (α := Nat) (fun _ _ => 4) (fun _ => 4) (1 / 2) ⟨0, none, 2, 1⟩ ⟨1, none, 1, 1⟩ = true := by
  exact decide_eq_true (by norm_num)

end SimVerif.Tie
