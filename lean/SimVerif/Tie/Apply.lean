import SimVerif.Gen.LApply
import Mathlib.Data.List.Basic
/-!
# Tie (DESIGN.md 14.13): the per-detection loop of `predict_with_scene` and of the batch trackers' voting threads

`Gen/LApply.lean` is regenerated on every run from `trackers/sort/simple_api.rs` and `trackers/visual_sort/simple_api.rs`:
`gen_track_id` and the statements of `predict_with_scene` from `let mut res = Vec::default();` on — the loop that, for
every candidate track built from a detection, reads its winner, either merges the candidate into the winning track
(VisualSORT: after writing the voting type into it) or issues a new id and adds it, then reads the stored track back and
pushes its record. The store operations (`add_track`, `merge_external`, `get_store`), `get_track_id` / `set_track_id` /
`clone` / `add_observation` and `SortTrack::from` are parameters; every `unwrap` that can fail is the value `none`
(indexing `dest[0]` reads a default on an empty list, where Rust would panic: every entry of `SortVoting::winners` is a
singleton, `Props/C01t.lean`; for `VisualVoting::winners` no such statement is proved).

The same loop runs in the voting threads of the batch trackers (`fn voting_thread` of `trackers/sort/batch_api.rs` and
`trackers/visual_sort/batch_api.rs`; a statement snippet, with the shared id counter — an `Arc<RwLock<u64>>` whose name a later
local shadows — renamed `ctr` and the shared store renamed `db` by patterns stated in the configuration). There an id is drawn
for **every** candidate, used or not (`stepB`, `stepBV`). Counter and store are read as this thread's alone: both are shared by
all voting threads in the source (one `Arc<RwLock<…>>` each, the lock taken anew for every draw and every store operation), and
what other threads draw or store in between is not modelled.
-/
namespace SimVerif.Tie
open SimVerif.Gen.L

variable {T DB R : Type}

/-- what the winners table says for the candidate with (random) id `src`: continue track `dest`, or start a new track -/
def pickOf (winners : List (Nat × List Nat)) (src : Nat) : Option Nat :=
  match mapGet winners src with
  | some l => if l[0]! = src then none else some l[0]!
  | none => none

/-- the winner of a VisualSORT candidate carries the voting type (visual / positional) that decided it -/
def pickOfV {V : Type} [Inhabited V] (winners : List (Nat × List (Nat × V))) (src : Nat) : Option (Nat × V) :=
  match mapGet winners src with
  | some l => if l[0]!.1 = src then none else some l[0]!
  | none => none

/-- the state of a run: `(counter, store, records)` and the chosen `(id, fresh)` so far -/
abbrev RunSt (DB R : Type) := (Nat × DB × List R) × List (Nat × Bool)

/-- one iteration, with the chosen ids recorded: `(id, fresh)` -/
def stepI (trackId : T → Nat) (setTrackId : T → Nat → T) (addTrack : DB → T → Option DB) (mergeExternal : DB → Nat → T → Option DB)
    (shardOf : DB → Nat → List (Nat × T)) (recOf : T → R) (winners : List (Nat × List Nat))
    (st : (Nat × DB × List R) × List (Nat × Bool)) (t : T) : Option ((Nat × DB × List R) × List (Nat × Bool)) :=
  match pickOf winners (trackId t) with
  | some dest =>
    (mergeExternal st.1.2.1 dest t).bind fun db' =>
      (mapGet (shardOf db' dest) dest).map fun tr => ((st.1.1, db', st.1.2.2 ++ [recOf tr]), st.2 ++ [(dest, false)])
  | none =>
    (addTrack st.1.2.1 (setTrackId t (st.1.1 + 1))).bind fun db' =>
      (mapGet (shardOf db' (st.1.1 + 1)) (st.1.1 + 1)).map fun tr =>
        ((st.1.1 + 1, db', st.1.2.2 ++ [recOf tr]), st.2 ++ [(st.1.1 + 1, true)])

def stepV {V : Type} [Inhabited V] (trackId : T → Nat) (setTrackId : T → Nat → T) (cloneT : T → T) (addVotingObs : T → Option V → Option T)
    (addTrack : DB → T → Option DB) (mergeExternal : DB → Nat → T → Option DB)
    (shardOf : DB → Nat → List (Nat × T)) (recOf : T → R) (winners : List (Nat × List (Nat × V)))
    (st : RunSt DB R) (t : T) : Option (RunSt DB R) :=
  match pickOfV winners (trackId t) with
  | some (dest, vt) =>
    (addVotingObs t (some vt)).bind fun t' =>
      (mergeExternal st.1.2.1 dest t').bind fun db' =>
        (mapGet (shardOf db' dest) dest).map fun tr => ((st.1.1, db', st.1.2.2 ++ [recOf tr]), st.2 ++ [(dest, false)])
  | none =>
    (addTrack st.1.2.1 (setTrackId (cloneT t) (st.1.1 + 1))).bind fun db' =>
      (mapGet (shardOf db' (st.1.1 + 1)) (st.1.1 + 1)).map fun tr =>
        ((st.1.1 + 1, db', st.1.2.2 ++ [recOf tr]), st.2 ++ [(st.1.1 + 1, true)])

def stepB (trackId : T → Nat) (setTrackId : T → Nat → T) (addTrack : DB → T → Option DB) (mergeExternal : DB → Nat → T → Option DB)
    (shardOf : DB → Nat → List (Nat × T)) (recOf : T → R) (winners : List (Nat × List Nat))
    (st : RunSt DB R) (t : T) : Option (RunSt DB R) :=
  match pickOf winners (trackId t) with
  | some dest =>
    (mergeExternal st.1.2.1 dest t).bind fun db' =>
      (mapGet (shardOf db' dest) dest).map fun tr => ((st.1.1 + 1, db', st.1.2.2 ++ [recOf tr]), st.2 ++ [(dest, false)])
  | none =>
    (addTrack st.1.2.1 (setTrackId t (st.1.1 + 1))).bind fun db' =>
      (mapGet (shardOf db' (st.1.1 + 1)) (st.1.1 + 1)).map fun tr =>
        ((st.1.1 + 1, db', st.1.2.2 ++ [recOf tr]), st.2 ++ [(st.1.1 + 1, true)])

def stepBV {V : Type} [Inhabited V] (trackId : T → Nat) (setTrackId : T → Nat → T) (addVotingObs : T → Option V → Option T)
    (addTrack : DB → T → Option DB) (mergeExternal : DB → Nat → T → Option DB)
    (shardOf : DB → Nat → List (Nat × T)) (recOf : T → R) (winners : List (Nat × List (Nat × V)))
    (st : RunSt DB R) (t : T) : Option (RunSt DB R) :=
  match pickOfV winners (trackId t) with
  | some (dest, vt) =>
    (addVotingObs t (some vt)).bind fun t' =>
      (mergeExternal st.1.2.1 dest t').bind fun db' =>
        (mapGet (shardOf db' dest) dest).map fun tr => ((st.1.1 + 1, db', st.1.2.2 ++ [recOf tr]), st.2 ++ [(dest, false)])
  | none =>
    (addTrack st.1.2.1 (setTrackId t (st.1.1 + 1))).bind fun db' =>
      (mapGet (shardOf db' (st.1.1 + 1)) (st.1.1 + 1)).map fun tr =>
        ((st.1.1 + 1, db', st.1.2.2 ++ [recOf tr]), st.2 ++ [(st.1.1 + 1, true)])

/-- the fold over the detections, in submission order; `none` as soon as one step fails -/
def runG (step : RunSt DB R → T → Option (RunSt DB R)) : List T → RunSt DB R → Option (RunSt DB R)
  | [], st => some st
  | t :: ts, st => (step st t).bind (runG step ts)

abbrev runI (trackId : T → Nat) (setTrackId : T → Nat → T) (addTrack : DB → T → Option DB) (mergeExternal : DB → Nat → T → Option DB)
    (shardOf : DB → Nat → List (Nat × T)) (recOf : T → R) (winners : List (Nat × List Nat)) :
    List T → RunSt DB R → Option (RunSt DB R) :=
  runG (stepI trackId setTrackId addTrack mergeExternal shardOf recOf winners)

/-- `stepI` started without recorded ids, the ids dropped again: the form in which `gen_apply` states the generated loop -/
def genStep (trackId : T → Nat) (setTrackId : T → Nat → T) (addTrack : DB → T → Option DB) (mergeExternal : DB → Nat → T → Option DB)
    (shardOf : DB → Nat → List (Nat × T)) (recOf : T → R) (winners : List (Nat × List Nat))
    (acc : Option (Nat × DB × List R)) (t : T) : Option (Nat × DB × List R) :=
  match acc with
  | none => none
  | some st => (stepI trackId setTrackId addTrack mergeExternal shardOf recOf winners (st, []) t).map (·.1)

def genStepV {V : Type} [Inhabited V] (trackId : T → Nat) (setTrackId : T → Nat → T) (cloneT : T → T) (addVotingObs : T → Option V → Option T)
    (addTrack : DB → T → Option DB) (mergeExternal : DB → Nat → T → Option DB)
    (shardOf : DB → Nat → List (Nat × T)) (recOf : T → R) (winners : List (Nat × List (Nat × V)))
    (acc : Option (Nat × DB × List R)) (t : T) : Option (Nat × DB × List R) :=
  match acc with
  | none => none
  | some st => (stepV trackId setTrackId cloneT addVotingObs addTrack mergeExternal shardOf recOf winners (st, []) t).map (·.1)

/-- a `foldl` that carries `some s` until an iteration fails, each iteration being `step` without the recorded ids (the shape
of the generated loops), is `runG step` with the ids dropped at the end -/
theorem foldl_eq_runG (step : RunSt DB R → T → Option (RunSt DB R)) (g : Option (Nat × DB × List R) → T → Option (Nat × DB × List R))
    (hg0 : ∀ t, g none t = none) (hg : ∀ s ids t, g (some s) t = (step (s, ids) t).map (·.1)) (tracks : List T)
    (s : Nat × DB × List R) (ids : List (Nat × Bool)) :
    List.foldl g (some s) tracks = (runG step tracks (s, ids)).map (·.1) := by
  induction tracks generalizing s ids with
  | nil => rfl
  | cons t ts ih =>
    rw [List.foldl_cons, hg s ids, runG]
    cases step (s, ids) t with
    | none => exact List.foldl_fixed' hg0 ts
    | some r => exact ih r.1 r.2

/-- a step adds one record and one chosen id: an existing track's, or — for a new track — the value the counter has after
the step, which is larger than before; the counter never decreases (the batch trackers draw an id for every candidate) -/
def StepOK (step : RunSt DB R → T → Option (RunSt DB R)) : Prop :=
  ∀ st t st', step st t = some st' →
    st'.1.2.2.length = st.1.2.2.length + 1 ∧ st.1.1 ≤ st'.1.1 ∧
    ((∃ d, st'.2 = st.2 ++ [(d, false)]) ∨ (st'.2 = st.2 ++ [(st'.1.1, true)] ∧ st.1.1 < st'.1.1))

abbrev freshOf (st : RunSt DB R) : List Nat := (st.2.filter (·.2)).map (·.1)

/-- invariant of the run: one record and one chosen id per processed detection; the counter at entry followed by the fresh ids
is strictly increasing and stays at or below the current counter -/
structure RunInv (c0 : Nat) (k : Nat) (st : RunSt DB R) : Prop where
  recs : st.1.2.2.length = k
  ids : st.2.length = k
  fresh : (c0 :: freshOf st).Pairwise (· < ·)
  bound : ∀ x ∈ c0 :: freshOf st, x ≤ st.1.1

theorem step_inv (step : RunSt DB R → T → Option (RunSt DB R)) (hok : StepOK step) (c0 k : Nat)
    (st st' : RunSt DB R) (t : T) (h : RunInv c0 k st) (hs : step st t = some st') : RunInv c0 (k + 1) st' := by
  obtain ⟨hl, hmono, hc⟩ := hok st t st' hs
  have hb : ∀ x ∈ c0 :: freshOf st, x ≤ st'.1.1 := fun x hx => Nat.le_trans (h.bound x hx) hmono
  rcases hc with ⟨d, hids⟩ | ⟨hids, hlt⟩
  · have hF : freshOf st' = freshOf st := by simp [freshOf, hids]
    exact ⟨by rw [hl, h.recs], by simp [hids, h.ids], hF ▸ h.fresh, hF ▸ hb⟩
  · have hF : c0 :: freshOf st' = (c0 :: freshOf st) ++ [st'.1.1] := by simp [freshOf, hids]
    refine ⟨by rw [hl, h.recs], by simp [hids, h.ids], ?_, ?_⟩
    · rw [hF, List.pairwise_append]
      exact ⟨h.fresh, List.pairwise_singleton _ _, fun x hx y hy =>
        List.mem_singleton.mp hy ▸ Nat.lt_of_le_of_lt (h.bound x hx) hlt⟩
    · rw [hF]
      intro x hx
      rcases List.mem_append.mp hx with hx | hx
      · exact hb x hx
      · exact List.mem_singleton.mp hx ▸ Nat.le_refl _

theorem runG_inv (step : RunSt DB R → T → Option (RunSt DB R)) (hok : StepOK step) (c0 : Nat) (tracks : List T) :
    ∀ (k : Nat) (st st' : RunSt DB R), RunInv c0 k st → runG step tracks st = some st' → RunInv c0 (k + tracks.length) st' := by
  induction tracks with
  | nil => intro k st st' h hs; cases hs; exact h
  | cons t ts ih =>
    intro k st st' h hs
    obtain ⟨s1, h1, hs⟩ := Option.bind_eq_some_iff.mp hs
    simpa [Nat.add_assoc, Nat.add_comm 1] using ih (k + 1) s1 st' (step_inv step hok c0 k st s1 t h h1) hs

/-- **C01 for any loop that is the fold of a `StepOK` step**: when the call returns, it returns one record per detection (the
fold pushes them in submission order), and the step's own log `st'.2` — the id under which each record was read back, which
the generated loop does not return and which no conjunct relates to the contents of the records — has one entry each; the
logged ids of newly started tracks are pairwise distinct (strictly
increasing: `RunInv.fresh`) and **never issued before** — above the counter the call started with (the largest id this
tracker instance has issued: it is written only where an id is drawn, and the id drawn is the value stored) and at most the
counter the call ends with -/
theorem runG_C01 (step : RunSt DB R → T → Option (RunSt DB R)) (hok : StepOK step) (tracks : List T) (ctr : Nat) (db : DB)
    (st' : RunSt DB R) (h : runG step tracks ((ctr, db, []), []) = some st') :
    st'.1.2.2.length = tracks.length ∧ st'.2.length = tracks.length ∧
    ((st'.2.filter (·.2)).map (·.1)).Nodup ∧ (∀ p ∈ st'.2, p.2 = true → ctr < p.1 ∧ p.1 ≤ st'.1.1) := by
  have inv := runG_inv step hok ctr tracks 0 _ st'
    ⟨rfl, rfl, List.pairwise_singleton _ _, fun x hx => Nat.le_of_eq (List.mem_singleton.mp hx)⟩ h
  have hf : ∀ p ∈ st'.2, p.2 = true → p.1 ∈ freshOf st' := fun p hp hf =>
    List.mem_map.mpr ⟨p, List.mem_filter.mpr ⟨hp, hf⟩, rfl⟩
  obtain ⟨hlt, hinc⟩ := List.pairwise_cons.mp inv.fresh
  exact ⟨by simpa using inv.recs, by simpa using inv.ids, hinc.imp Nat.ne_of_lt,
    fun p hp hp2 => ⟨hlt _ (hf p hp hp2), inv.bound _ (List.mem_cons_of_mem _ (hf p hp hp2))⟩⟩

section
variable {trackId : T → Nat} {setTrackId : T → Nat → T} {addTrack : DB → T → Option DB} {mergeExternal : DB → Nat → T → Option DB}
  {shardOf : DB → Nat → List (Nat × T)} {recOf : T → R} {winners : List (Nat × List Nat)}

theorem stepI_ok : StepOK (stepI trackId setTrackId addTrack mergeExternal shardOf recOf winners) := by
  intro st t st' hs
  unfold stepI at hs
  split at hs
  · obtain ⟨db', -, hs⟩ := Option.bind_eq_some_iff.mp hs
    obtain ⟨tr, -, rfl⟩ := Option.map_eq_some_iff.mp hs
    exact ⟨List.length_append, Nat.le_refl _, .inl ⟨_, rfl⟩⟩
  · obtain ⟨db', -, hs⟩ := Option.bind_eq_some_iff.mp hs
    obtain ⟨tr, -, rfl⟩ := Option.map_eq_some_iff.mp hs
    exact ⟨List.length_append, Nat.le_succ _, .inr ⟨rfl, Nat.lt_succ_self _⟩⟩

theorem stepB_ok : StepOK (stepB trackId setTrackId addTrack mergeExternal shardOf recOf winners) := by
  intro st t st' hs
  unfold stepB at hs
  split at hs
  · obtain ⟨db', -, hs⟩ := Option.bind_eq_some_iff.mp hs
    obtain ⟨tr, -, rfl⟩ := Option.map_eq_some_iff.mp hs
    exact ⟨List.length_append, Nat.le_succ _, .inl ⟨_, rfl⟩⟩
  · obtain ⟨db', -, hs⟩ := Option.bind_eq_some_iff.mp hs
    obtain ⟨tr, -, rfl⟩ := Option.map_eq_some_iff.mp hs
    exact ⟨List.length_append, Nat.le_succ _, .inr ⟨rfl, Nat.lt_succ_self _⟩⟩

theorem stepI_ids (s : Nat × DB × List R) (ids : List (Nat × Bool)) (t : T) :
    (stepI trackId setTrackId addTrack mergeExternal shardOf recOf winners (s, ids) t).map (·.1) =
    (stepI trackId setTrackId addTrack mergeExternal shardOf recOf winners (s, []) t).map (·.1) := by
  unfold stepI
  split <;> simp only [Option.map_bind, Function.comp_def, Option.map_map]

end

section
variable {V : Type} [Inhabited V] {trackId : T → Nat} {setTrackId : T → Nat → T} {cloneT : T → T} {addVotingObs : T → Option V → Option T}
  {addTrack : DB → T → Option DB} {mergeExternal : DB → Nat → T → Option DB}
  {shardOf : DB → Nat → List (Nat × T)} {recOf : T → R} {winners : List (Nat × List (Nat × V))}

theorem stepV_ok : StepOK (stepV trackId setTrackId cloneT addVotingObs addTrack mergeExternal shardOf recOf winners) := by
  intro st t st' hs
  unfold stepV at hs
  split at hs
  · obtain ⟨t', -, hs⟩ := Option.bind_eq_some_iff.mp hs
    obtain ⟨db', -, hs⟩ := Option.bind_eq_some_iff.mp hs
    obtain ⟨tr, -, rfl⟩ := Option.map_eq_some_iff.mp hs
    exact ⟨List.length_append, Nat.le_refl _, .inl ⟨_, rfl⟩⟩
  · obtain ⟨db', -, hs⟩ := Option.bind_eq_some_iff.mp hs
    obtain ⟨tr, -, rfl⟩ := Option.map_eq_some_iff.mp hs
    exact ⟨List.length_append, Nat.le_succ _, .inr ⟨rfl, Nat.lt_succ_self _⟩⟩

theorem stepBV_ok : StepOK (stepBV trackId setTrackId addVotingObs addTrack mergeExternal shardOf recOf winners) := by
  intro st t st' hs
  unfold stepBV at hs
  split at hs
  · obtain ⟨t', -, hs⟩ := Option.bind_eq_some_iff.mp hs
    obtain ⟨db', -, hs⟩ := Option.bind_eq_some_iff.mp hs
    obtain ⟨tr, -, rfl⟩ := Option.map_eq_some_iff.mp hs
    exact ⟨List.length_append, Nat.le_succ _, .inl ⟨_, rfl⟩⟩
  · obtain ⟨db', -, hs⟩ := Option.bind_eq_some_iff.mp hs
    obtain ⟨tr, -, rfl⟩ := Option.map_eq_some_iff.mp hs
    exact ⟨List.length_append, Nat.le_succ _, .inr ⟨rfl, Nat.lt_succ_self _⟩⟩

theorem stepV_ids (s : Nat × DB × List R) (ids : List (Nat × Bool)) (t : T) :
    (stepV trackId setTrackId cloneT addVotingObs addTrack mergeExternal shardOf recOf winners (s, ids) t).map (·.1) =
    (stepV trackId setTrackId cloneT addVotingObs addTrack mergeExternal shardOf recOf winners (s, []) t).map (·.1) := by
  unfold stepV
  split <;> simp only [Option.map_bind, Function.comp_def, Option.map_map]

end

/- The two simple trackers' loops are tied in two steps: to `foldl genStep` / `foldl genStepV` first (`gen_apply`, `gen_apply_v`,
statements of their own: the ones that break when the loop changes), then to `runG` by `foldl_eq_runG`. The batch loops go to
`runG` in one step. -/

theorem gen_apply (trackId : T → Nat) (setTrackId : T → Nat → T) (addTrack : DB → T → Option DB) (mergeExternal : DB → Nat → T → Option DB)
    (shardOf : DB → Nat → List (Nat × T)) (recOf : T → R) (winners : List (Nat × List Nat)) (tracks : List T) (ctr : Nat) (db : DB) :
    sort_apply_winners trackId setTrackId addTrack mergeExternal shardOf recOf winners tracks ctr db =
      List.foldl (genStep trackId setTrackId addTrack mergeExternal shardOf recOf winners) (some (ctr, db, [])) tracks := by
  unfold sort_apply_winners
  conv_lhs => zeta
  rw [List.foldl_ext _ (genStep trackId setTrackId addTrack mergeExternal shardOf recOf winners) _ (fun acc t _ => by
    cases acc with
    | none => rfl
    | some s =>
      dsimp only [genStep, stepI, pickOf, sort_gen_track_id]
      cases mapGet winners (trackId t) with
      | none =>
        cases addTrack s.2.1 (setTrackId t (s.1 + 1)) with
        | none => rfl
        | some db' => dsimp only [Option.bind_some]; cases mapGet (shardOf db' (s.1 + 1)) (s.1 + 1) <;> rfl
      | some l =>
        by_cases hd : l[0]! = trackId t <;> simp only [hd, decide_true, decide_false, Bool.false_eq_true, ↓reduceIte]
        · cases addTrack s.2.1 (setTrackId t (s.1 + 1)) with
          | none => rfl
          | some db' => dsimp only [Option.bind_some]; cases mapGet (shardOf db' (s.1 + 1)) (s.1 + 1) <;> rfl
        · cases mergeExternal s.2.1 l[0]! t with
          | none => rfl
          | some db' => dsimp only [Option.bind_some]; cases mapGet (shardOf db' l[0]!) l[0]! <;> rfl)]
  cases List.foldl (genStep trackId setTrackId addTrack mergeExternal shardOf recOf winners) (some (ctr, db, [])) tracks <;> rfl

/-- **`predict_with_scene`, the apply loop, is the fold of `stepI` over the detections in submission order** -/
theorem tie_sort_apply_winners (trackId : T → Nat) (setTrackId : T → Nat → T) (addTrack : DB → T → Option DB) (mergeExternal : DB → Nat → T → Option DB)
    (shardOf : DB → Nat → List (Nat × T)) (recOf : T → R) (winners : List (Nat × List Nat)) (tracks : List T) (ctr : Nat) (db : DB) :
    sort_apply_winners trackId setTrackId addTrack mergeExternal shardOf recOf winners tracks ctr db =
      (runI trackId setTrackId addTrack mergeExternal shardOf recOf winners tracks ((ctr, db, []), [])).map (·.1) := by
  rw [gen_apply]
  exact foldl_eq_runG _ _ (fun _ => rfl) (fun s ids t => (stepI_ids s ids t).symm) tracks _ []

/-- **C01 for the SORT loop** (`runG_C01` at `stepI`): in the step's log `st'.2` the fresh ids are the next counter values; that
the records carry these ids is a fact about `recOf` and the store, not stated here -/
theorem sort_apply_C01 (trackId : T → Nat) (setTrackId : T → Nat → T) (addTrack : DB → T → Option DB) (mergeExternal : DB → Nat → T → Option DB)
    (shardOf : DB → Nat → List (Nat × T)) (recOf : T → R) (winners : List (Nat × List Nat)) (tracks : List T) (ctr : Nat) (db : DB)
    (st' : RunSt DB R)
    (h : runI trackId setTrackId addTrack mergeExternal shardOf recOf winners tracks ((ctr, db, []), []) = some st') :
    sort_apply_winners trackId setTrackId addTrack mergeExternal shardOf recOf winners tracks ctr db = some st'.1 ∧
    st'.1.2.2.length = tracks.length ∧ st'.2.length = tracks.length ∧
    ((st'.2.filter (·.2)).map (·.1)).Nodup ∧ (∀ p ∈ st'.2, p.2 = true → ctr < p.1 ∧ p.1 ≤ st'.1.1) :=
  ⟨by rw [tie_sort_apply_winners, h]; rfl, runG_C01 _ stepI_ok tracks ctr db st' h⟩

theorem tie_sort_gen_track_id (c : Nat) : sort_gen_track_id c = (c + 1, c + 1) := rfl

theorem gen_apply_v {V : Type} [Inhabited V] (trackId : T → Nat) (setTrackId : T → Nat → T) (cloneT : T → T) (addVotingObs : T → Option V → Option T)
    (addTrack : DB → T → Option DB) (mergeExternal : DB → Nat → T → Option DB)
    (shardOf : DB → Nat → List (Nat × T)) (recOf : T → R) (winners : List (Nat × List (Nat × V))) (tracks : List T) (ctr : Nat) (db : DB) :
    visual_apply_winners trackId setTrackId cloneT addVotingObs addTrack mergeExternal shardOf recOf winners tracks ctr db =
      List.foldl (genStepV trackId setTrackId cloneT addVotingObs addTrack mergeExternal shardOf recOf winners) (some (ctr, db, [])) tracks := by
  unfold visual_apply_winners
  conv_lhs => zeta
  rw [List.foldl_ext _ (genStepV trackId setTrackId cloneT addVotingObs addTrack mergeExternal shardOf recOf winners) _ (fun acc t _ => by
    cases acc with
    | none => rfl
    | some s =>
      dsimp only [genStepV, stepV, pickOfV, visual_gen_track_id]
      cases mapGet winners (trackId t) with
      | none =>
        cases addTrack s.2.1 (setTrackId (cloneT t) (s.1 + 1)) with
        | none => rfl
        | some db' => dsimp only [Option.bind_some]; cases mapGet (shardOf db' (s.1 + 1)) (s.1 + 1) <;> rfl
      | some l =>
        by_cases hd : l[0]!.1 = trackId t <;> simp only [hd, decide_true, decide_false, Bool.false_eq_true, ↓reduceIte]
        · cases addTrack s.2.1 (setTrackId (cloneT t) (s.1 + 1)) with
          | none => rfl
          | some db' => dsimp only [Option.bind_some]; cases mapGet (shardOf db' (s.1 + 1)) (s.1 + 1) <;> rfl
        · cases addVotingObs t (some l[0]!.2) with
          | none => rfl
          | some t' =>
            dsimp only [Option.bind_some]
            cases mergeExternal s.2.1 l[0]!.1 t' with
            | none => rfl
            | some db' => dsimp only [Option.bind_some]; cases mapGet (shardOf db' l[0]!.1) l[0]!.1 <;> rfl)]
  cases List.foldl (genStepV trackId setTrackId cloneT addVotingObs addTrack mergeExternal shardOf recOf winners) (some (ctr, db, [])) tracks <;> rfl

theorem tie_visual_apply_winners {V : Type} [Inhabited V] (trackId : T → Nat) (setTrackId : T → Nat → T) (cloneT : T → T) (addVotingObs : T → Option V → Option T)
    (addTrack : DB → T → Option DB) (mergeExternal : DB → Nat → T → Option DB)
    (shardOf : DB → Nat → List (Nat × T)) (recOf : T → R) (winners : List (Nat × List (Nat × V))) (tracks : List T) (ctr : Nat) (db : DB) :
    visual_apply_winners trackId setTrackId cloneT addVotingObs addTrack mergeExternal shardOf recOf winners tracks ctr db =
      (runG (stepV trackId setTrackId cloneT addVotingObs addTrack mergeExternal shardOf recOf winners) tracks ((ctr, db, []), [])).map (·.1) := by
  rw [gen_apply_v]
  exact foldl_eq_runG _ _ (fun _ => rfl) (fun s ids t => (stepV_ids s ids t).symm) tracks _ []

theorem visual_apply_C01 {V : Type} [Inhabited V] (trackId : T → Nat) (setTrackId : T → Nat → T) (cloneT : T → T) (addVotingObs : T → Option V → Option T)
    (addTrack : DB → T → Option DB) (mergeExternal : DB → Nat → T → Option DB)
    (shardOf : DB → Nat → List (Nat × T)) (recOf : T → R) (winners : List (Nat × List (Nat × V))) (tracks : List T) (ctr : Nat) (db : DB)
    (st' : RunSt DB R)
    (h : runG (stepV trackId setTrackId cloneT addVotingObs addTrack mergeExternal shardOf recOf winners) tracks ((ctr, db, []), []) = some st') :
    visual_apply_winners trackId setTrackId cloneT addVotingObs addTrack mergeExternal shardOf recOf winners tracks ctr db = some st'.1 ∧
    st'.1.2.2.length = tracks.length ∧ st'.2.length = tracks.length ∧
    ((st'.2.filter (·.2)).map (·.1)).Nodup ∧ (∀ p ∈ st'.2, p.2 = true → ctr < p.1 ∧ p.1 ≤ st'.1.1) :=
  ⟨by rw [tie_visual_apply_winners, h]; rfl, runG_C01 _ stepV_ok tracks ctr db st' h⟩

theorem tie_visual_gen_track_id (c : Nat) : visual_gen_track_id c = (c + 1, c + 1) := rfl

theorem tie_batch_sort_apply_winners (trackId : T → Nat) (setTrackId : T → Nat → T) (addTrack : DB → T → Option DB) (mergeExternal : DB → Nat → T → Option DB)
    (shardOf : DB → Nat → List (Nat × T)) (recOf : T → R) (winners : List (Nat × List Nat)) (tracks : List T) (ctr : Nat) (db : DB) :
    batch_sort_apply_winners trackId setTrackId addTrack mergeExternal shardOf recOf winners tracks ctr db =
      (runG (stepB trackId setTrackId addTrack mergeExternal shardOf recOf winners) tracks ((ctr, db, []), [])).map (·.1) := by
  unfold batch_sort_apply_winners
  conv_lhs => zeta
  rw [foldl_eq_runG (stepB trackId setTrackId addTrack mergeExternal shardOf recOf winners) _ (fun _ => rfl) (fun s ids t => ?_) tracks (ctr, db, []) []]
  · cases runG (stepB trackId setTrackId addTrack mergeExternal shardOf recOf winners) tracks ((ctr, db, []), []) <;> rfl
  · dsimp only [stepB, pickOf]
    cases mapGet winners (trackId t) with
    | none =>
      cases addTrack s.2.1 (setTrackId t (s.1 + 1)) with
      | none => rfl
      | some db' => dsimp only [Option.bind_some]; cases mapGet (shardOf db' (s.1 + 1)) (s.1 + 1) <;> rfl
    | some l =>
      by_cases hd : l[0]! = trackId t <;> simp only [hd, decide_true, decide_false, Bool.false_eq_true, ↓reduceIte]
      · cases addTrack s.2.1 (setTrackId t (s.1 + 1)) with
        | none => rfl
        | some db' => dsimp only [Option.bind_some]; cases mapGet (shardOf db' (s.1 + 1)) (s.1 + 1) <;> rfl
      · cases mergeExternal s.2.1 l[0]! t with
        | none => rfl
        | some db' => dsimp only [Option.bind_some]; cases mapGet (shardOf db' l[0]!) l[0]! <;> rfl

theorem batch_sort_apply_C01 (trackId : T → Nat) (setTrackId : T → Nat → T) (addTrack : DB → T → Option DB) (mergeExternal : DB → Nat → T → Option DB)
    (shardOf : DB → Nat → List (Nat × T)) (recOf : T → R) (winners : List (Nat × List Nat)) (tracks : List T) (ctr : Nat) (db : DB)
    (st' : RunSt DB R)
    (h : runG (stepB trackId setTrackId addTrack mergeExternal shardOf recOf winners) tracks ((ctr, db, []), []) = some st') :
    batch_sort_apply_winners trackId setTrackId addTrack mergeExternal shardOf recOf winners tracks ctr db = some st'.1 ∧
    st'.1.2.2.length = tracks.length ∧ st'.2.length = tracks.length ∧
    ((st'.2.filter (·.2)).map (·.1)).Nodup ∧ (∀ p ∈ st'.2, p.2 = true → ctr < p.1 ∧ p.1 ≤ st'.1.1) :=
  ⟨by rw [tie_batch_sort_apply_winners, h]; rfl, runG_C01 _ stepB_ok tracks ctr db st' h⟩

theorem tie_batch_visual_apply_winners {V : Type} [Inhabited V] (trackId : T → Nat) (setTrackId : T → Nat → T) (cloneT : T → T) (addVotingObs : T → Option V → Option T)
    (addTrack : DB → T → Option DB) (mergeExternal : DB → Nat → T → Option DB)
    (shardOf : DB → Nat → List (Nat × T)) (recOf : T → R) (winners : List (Nat × List (Nat × V))) (tracks : List T) (ctr : Nat) (db : DB) :
    batch_visual_apply_winners trackId setTrackId cloneT addVotingObs addTrack mergeExternal shardOf recOf winners tracks ctr db =
      (runG (stepBV trackId setTrackId addVotingObs addTrack mergeExternal shardOf recOf winners) tracks ((ctr, db, []), [])).map (·.1) := by
  unfold batch_visual_apply_winners
  conv_lhs => zeta
  rw [foldl_eq_runG (stepBV trackId setTrackId addVotingObs addTrack mergeExternal shardOf recOf winners) _ (fun _ => rfl) (fun s ids t => ?_) tracks (ctr, db, []) []]
  · cases runG (stepBV trackId setTrackId addVotingObs addTrack mergeExternal shardOf recOf winners) tracks ((ctr, db, []), []) <;> rfl
  · dsimp only [stepBV, pickOfV]
    cases mapGet winners (trackId t) with
    | none =>
      cases addTrack s.2.1 (setTrackId t (s.1 + 1)) with
      | none => rfl
      | some db' => dsimp only [Option.bind_some]; cases mapGet (shardOf db' (s.1 + 1)) (s.1 + 1) <;> rfl
    | some l =>
      by_cases hd : l[0]!.1 = trackId t <;> simp only [hd, decide_true, decide_false, Bool.false_eq_true, ↓reduceIte]
      · cases addTrack s.2.1 (setTrackId t (s.1 + 1)) with
        | none => rfl
        | some db' => dsimp only [Option.bind_some]; cases mapGet (shardOf db' (s.1 + 1)) (s.1 + 1) <;> rfl
      · cases addVotingObs t (some l[0]!.2) with
        | none => rfl
        | some t' =>
          dsimp only [Option.bind_some]
          cases mergeExternal s.2.1 l[0]!.1 t' with
          | none => rfl
          | some db' => dsimp only [Option.bind_some]; cases mapGet (shardOf db' l[0]!.1) l[0]!.1 <;> rfl

theorem batch_visual_apply_C01 {V : Type} [Inhabited V] (trackId : T → Nat) (setTrackId : T → Nat → T) (cloneT : T → T) (addVotingObs : T → Option V → Option T)
    (addTrack : DB → T → Option DB) (mergeExternal : DB → Nat → T → Option DB)
    (shardOf : DB → Nat → List (Nat × T)) (recOf : T → R) (winners : List (Nat × List (Nat × V))) (tracks : List T) (ctr : Nat) (db : DB)
    (st' : RunSt DB R)
    (h : runG (stepBV trackId setTrackId addVotingObs addTrack mergeExternal shardOf recOf winners) tracks ((ctr, db, []), []) = some st') :
    batch_visual_apply_winners trackId setTrackId cloneT addVotingObs addTrack mergeExternal shardOf recOf winners tracks ctr db = some st'.1 ∧
    st'.1.2.2.length = tracks.length ∧ st'.2.length = tracks.length ∧
    ((st'.2.filter (·.2)).map (·.1)).Nodup ∧ (∀ p ∈ st'.2, p.2 = true → ctr < p.1 ∧ p.1 ≤ st'.1.1) :=
  ⟨by rw [tie_batch_visual_apply_winners, h]; rfl, runG_C01 _ stepBV_ok tracks ctr db st' h⟩

/-- non-vacuity: two detections, the first continues track 7 (its winner), the second starts track `ctr+1 = 4`;
the store is a plain association list -/
example :
    sort_apply_winners (T := Nat × Nat) (DB := List (Nat × (Nat × Nat))) (R := Nat) (fun t => t.1) (fun t i => (i, t.2))
      (fun db t => some (mapSet db t.1 t)) (fun db dest t => (mapGet db dest).map (fun d => mapSet db dest (dest, d.2 + t.2)))
      (fun db _ => db) (fun t => t.1 * 1000 + t.2) [(100, [7]), (101, [101])] [(100, 1), (101, 2)] 3 [(7, (7, 50))]
      = some (4, [(7, (7, 51)), (4, (4, 2))], [7051, 4002]) := by decide

end SimVerif.Tie
