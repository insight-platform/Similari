import SimVerif.Gen.KVMetric
import SimVerif.Tie.SMetric
/-!
# Tie: the decision kernels of `VisualMetric`
(`SimVerif.Gen.K.v_*`, regenerated on every run) = `SimVerif/Model/VisualMetric.lean` (C12, C13):
`is_ok`, `distance_to_weight`, `feature_can_be_used`, the collect rule of `optimize` (`v_collect_gate`), `visual_metric`,
and the positional half `positional_metric`, which is `SortMetric`'s rule (its Kalman distance is the same free parameter
`kfdist` as in `Tie/SMetric.lean`: the track's filter state does not reach it).
-/
set_option linter.unusedSectionVars false
namespace SimVerif.Tie
open SimVerif.Geom SimVerif.Kalman SimVerif.SortMetric SimVerif.VisualMetric
variable {α : Type} [Field α] [LinearOrder α] {F : Type}

theorem tie_v_is_ok (k : Kind α) (d : α) : Gen.K.v_is_ok k d = isOk k d := by
  cases k <;> rfl

theorem tie_v_distance_to_weight (k : Kind α) (d : α) : Gen.K.v_distance_to_weight k d = distToWeight k d := by
  cases k <;> rfl

theorem tie_v_feature_can_be_used (minArea : α) (b : UBox α) (q minQ : α) (share : Option α) (minShare : α) :
    Gen.K.v_feature_can_be_used minArea (some b) q minQ share minShare =
      featureCanBeUsed minArea (area b) q minQ share minShare := by
  cases share <;> rfl

/-- **the collect rule of `VisualMetric::optimize`** (C13): the feature of the observation that `optimize` is called for
is dropped exactly when the observation continues a track (`is_merge`; a track's first observation is exempt) and
does not meet the *collect* thresholds on box area, feature quality and own-area share; otherwise it is kept as it is -/
theorem tie_v_collect_gate {φ : Type} (minArea qCollect shareCollect : α) (isMerge : Bool) (b : UBox α) (q : α)
    (share : Option α) (feat : Option φ) :
    Gen.K.v_collect_gate minArea qCollect shareCollect isMerge b q share feat =
      if isMerge && !featureCanBeUsed minArea (area b) q qCollect share shareCollect then none else feat := by
  unfold Gen.K.v_collect_gate
  rw [tie_v_feature_can_be_used]

theorem tie_v_visual_metric (euclidean cosine : F → F → α) (k : Kind α) (minLen collected : Nat) (a b : F) :
    Gen.K.v_visual_metric euclidean cosine k minLen collected a b =
      visualMetric k minLen collected (match k with | .euclid _ => euclidean a b | .cosine _ => cosine a b) := by
  unfold Gen.K.v_visual_metric visualMetric
  simp only [decide_eq_true_eq]
  cases k <;> rfl

theorem v_positional_metric_eq_sort (toofar : UBox α → UBox α → Bool) (inter : UBox α → UBox α → α) (kfdist : α × α → UBox α → α)
    (chi : Nat → α) (upper : α) (pk : Gen.K.PosMetric α) (minc : α) (cb tb : UBox α) (wp wv : α) :
    Gen.K.v_positional_metric toofar inter kfdist chi upper pk minc (some cb) (some tb) wp wv =
      (Gen.K.sort_metric toofar inter kfdist chi upper pk minc cb tb wp wv).bind (·.1) := by
  unfold Gen.K.v_positional_metric Gen.K.sort_metric
  by_cases h : toofar cb tb = true <;> cases pk <;> simp [h]

theorem tie_v_positional_metric_iou (kfdist : α × α → UBox α → α) (chi : Nat → α) (upper thr minc : α)
    (cb tb : UBox α) (cc sc ct st wp wv : α) :
    Gen.K.v_positional_metric tooFar (fun a b => intersection a b cc sc ct st) kfdist chi upper (.iou thr) minc (some cb) (some tb) wp wv =
      (metricIoU thr minc cb tb cc sc ct st).bind id := by
  rw [v_positional_metric_eq_sort, tie_sort_metric_iou, Option.bind_map]; rfl

theorem tie_v_positional_metric_maha (inter : UBox α → UBox α → α) (kfdist : α × α → UBox α → α) (chi : Nat → α) (upper minc : α)
    (cb tb : UBox α) (wp wv : α) :
    Gen.K.v_positional_metric tooFar inter kfdist chi upper .maha minc (some cb) (some tb) wp wv =
      (metricMaha (chi Gen.boxCostGateInverted) upper minc cb tb (kfdist (wp, wv) cb)).bind id := by
  rw [v_positional_metric_eq_sort, tie_sort_metric_maha, Option.bind_map]; rfl

end SimVerif.Tie
