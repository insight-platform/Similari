import SimVerif.Gen.LStoreMap
import SimVerif.Model.Store
import SimVerif.Props.C11
import SimVerif.Lemmas.Store
import SimVerif.Tie.Map
/-!
# Tie: the map operations of `TrackStore`
(`add_track`, `fetch_tracks`, `shard_stats`, `get_executor`, `add`, regenerated on every run — the guard returned by
`get_store(id)` is a borrow of shard `id % num_shards`, written through) = `addTrack`, `fetchTracks`, `shardStats`, `shardOf`,
`add` of `Model/Store.lean`.

Stated for every `s`, without `Shape s`: with no shards, or with a number of shards other than `n`, Rust's `get_store` panics where
the generated code reads an empty default shard. `add` is tied with the model's `build` and `addObservation` as its callees: no
theorem composes it with the generated `track_build` / `track_add_observation`.
-/
namespace SimVerif.Tie
open SimVerif.Gen.L SimVerif.Track SimVerif.Store

variable {TA M OA E : Type}

theorem shGet_eq_find (s : Store TA M OA) (id : Nat) : shGet (lstGetD s.shards (id % s.n)) id = find s id := rfl

/-- the shard helpers of `Gen/LStoreMap.lean` are those of `Gen/LBase.lean` under other names -/
theorem shPut_eq_mapSet {β : Type} (sh : List (Nat × β)) (id : Nat) (v : β) : shPut sh id v = mapSet sh id v := by
  induction sh with
  | nil => rfl
  | cons p rest ih => simp only [shPut, mapSet, ih]

theorem tie_store_add_track (s : Store TA M OA) (t : Track TA M OA) :
    store_add_track (E := E) (fun (t : Track TA M OA) => t.id) s.n s.shards t =
      ((addTrack (E := E) s t).1, (addTrack (E := E) s t).2.shards) := by
  unfold store_add_track addTrack
  rw [← shGet_eq_find]
  dsimp only
  cases h : shGet (lstGetD s.shards (t.id % s.n)) t.id with
  | none => rfl
  | some t0 => simp only [Option.isNone_some, Bool.false_eq_true, if_false]

theorem foldl_fetch (f : List (List (Nat × Track TA M OA)) × List (Track TA M OA) → Nat → List (List (Nat × Track TA M OA)) × List (Track TA M OA))
    (n : Nat)
    (hf : ∀ st id, f st id =
      (match shGet (lstGetD st.1 (id % n)) id with
       | some t => (lstSet st.1 (id % n) (shRemove (lstGetD st.1 (id % n)) id), st.2 ++ [t])
       | none => (lstSet st.1 (id % n) (shRemove (lstGetD st.1 (id % n)) id), st.2)))
    (ids : List Nat) (s : Store TA M OA) (hn : s.n = n) (res : List (Track TA M OA)) :
    List.foldl f (s.shards, res) ids = ((fetchTracks s ids).2.shards, res ++ (fetchTracks s ids).1) := by
  induction ids generalizing s res with
  | nil => simp [fetchTracks]
  | cons id rest ih =>
    subst hn
    -- one step of the source, found or not, leaves the shards of `remove s id`
    have hstep : f (s.shards, res) id = ((remove s id).shards, res ++ (find s id).toList) := by
      rw [hf, shGet_eq_find]
      cases find s id with
      | none => exact congrArg (Prod.mk _) (List.append_nil res).symm
      | some t => rfl
    rw [List.foldl_cons, hstep, ih (remove s id) rfl, fetchTracks_cons, List.append_assoc]

theorem tie_store_fetch_tracks (s : Store TA M OA) (ids : List Nat) :
    store_fetch_tracks s.n s.shards ids = ((fetchTracks s ids).1, (fetchTracks s ids).2.shards) := by
  unfold store_fetch_tracks
  dsimp only
  rw [foldl_fetch _ s.n (by intro st id; cases shGet (lstGetD st.1 (id % s.n)) id <;> rfl) ids s rfl []]
  simp

theorem tie_store_shard_stats (s : Store TA M OA) : store_shard_stats s.shards = shardStats s := by
  unfold store_shard_stats shardStats
  dsimp only
  rw [ListFacts.foldl_append_flatMap _ (fun sh : List (Nat × Track TA M OA) => [sh.length]) (fun _ _ => rfl), List.nil_append,
    ← List.map_eq_flatMap]

theorem tie_store_get_executor (s : Store TA M OA) (id : Nat) : store_get_executor s.n id = shardOf s id := rfl

/-- **`TrackStore::add`**: the answer is the model's, and afterwards every id is looked up to the same track as in the model (the
source updates an existing track in place, the model re-inserts it: as maps they are the same); a refused observation leaves
the store as it was -/
theorem tie_store_add {U Q : Type} (cb : Cb TA M OA U Q E) {A F : Type} (obsOf : Option A → Option F → Option OA)
    (s : Store TA M OA) (id cls : Nat) (fa : Option A) (f : Option F) (u : Option U) :
    let g := store_add
      (fun (x : Nat × Nat × Option A × Option F × Option U) => (build cb x.1 s.defMetric s.defAttrs [(x.2.1, obsOf x.2.2.1 x.2.2.2.1, x.2.2.2.2)]).1)
      (fun t c fa f u => ((addObservation cb t c (obsOf fa f) u).1, (addObservation cb t c (obsOf fa f) u).2.1))
      s.n s.shards id cls fa f u
    let m := add cb s id cls (obsOf fa f) u
    g.1 = m.1 ∧ ∀ id', shGet (lstGetD g.2 (id' % s.n)) id' = find m.2.1 id' := by
  intro g m
  simp only [g, m, store_add, add]
  rw [← shGet_eq_find]
  cases hf : shGet (lstGetD s.shards (id % s.n)) id with
  | none =>
    cases hb : build cb id s.defMetric s.defAttrs [(cls, obsOf fa f, u)] with
    | mk r k => cases r <;> exact ⟨rfl, fun id' => rfl⟩
  | some t =>
    dsimp only
    cases ha : addObservation cb t cls (obsOf fa f) u with
    | mk r rest =>
      obtain ⟨t', k⟩ := rest
      -- the source writes `t'` back in place: shard `id % n` becomes `shPut sh id t'`
      have hput : ∀ id', afind (shPut (getShard s (shardOf s id)) id t') id' =
          if id' = id then some t' else afind (getShard s (shardOf s id)) id' := fun id' => by
        rw [shPut_eq_mapSet]; exact mapGet_mapSet _ id id' t'
      cases r with
      | error e =>
        -- the observation was refused: `t' = t` (`C11_add_atomic`), so no lookup in the shard changes
        have hat : t' = t := by
          have := ((C11.C11_add_atomic cb t cls (obsOf fa f) u).1 e (by rw [ha])).1
          rwa [ha] at this
        refine ⟨rfl, fun id' => (find_setShard_congr s _ ?_).trans (congrArg (find · id') (setShard_getShard s _))⟩
        refine (hput id').trans ?_
        split
        · next h => rw [h, hat]; exact hf.symm
        · rfl
      | ok v => exact ⟨rfl, fun id' => find_setShard_congr s _ ((hput id').trans (afind_put _ id id' t').symm)⟩

end SimVerif.Tie
