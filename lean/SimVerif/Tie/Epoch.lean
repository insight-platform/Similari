import SimVerif.Gen.LEpoch
import SimVerif.Gen.LEpochDb
import SimVerif.Gen.LIdle
import SimVerif.Model.Tracker
import SimVerif.Tie.Map
/-!
# Tie (DESIGN.md 14.8): the epoch database and the idle lookups

For the functions generated from `trackers/epoch_db.rs` (its `RwLock<HashMap<scene, epoch>>` read as an association list) and
the two `lookup`s (`SimVerif.Gen.L.*`, regenerated on every run):
`EpochDb::baked`, the expiry rule of every tracker, is `expired` of `Model/Tracker.lean`; `next_epoch`,
`skip_epochs_for_scene` and `current_epoch_with_scene` write and read the scene's epoch only, an unknown scene counting as
epoch `0` like the model's `epochOf`; the idle lookups are the filter of the model's `idle`.
-/
namespace SimVerif.Tie
open SimVerif.Gen.L

theorem tie_lookupEpoch (st : Tracker.St) (s : Nat) : (lookupEpoch st.epochs s).getD 0 = Tracker.epochOf st s := rfl

/-- `EpochDb::baked` answers `Wasted` exactly for the tracks the model calls expired, and `Pending` otherwise -/
theorem tie_epoch_baked (cfg : Tracker.Cfg) (st : Tracker.St) (t : Tracker.Trk) :
    epoch_baked (some st.epochs) cfg.maxIdle t.scene t.lastUpd =
      if Tracker.expired cfg st t then Status.wasted else Status.pending := by
  unfold epoch_baked Tracker.expired
  simp only [tie_lookupEpoch]
  by_cases h : t.lastUpd + cfg.maxIdle < Tracker.epochOf st t.scene <;> simp [h]

theorem tie_epoch_baked_none (m s l : Nat) : epoch_baked none m s l = Status.ready := rfl

/-- the epoch of a scene in the map (`0` when the scene is unknown), the model's `epochOf` -/
def epochIn (m : List (Nat × Nat)) (s : Nat) : Nat := (mapGet m s).getD 0

theorem epochIn_eq_epochOf (st : Tracker.St) (s : Nat) : epochIn st.epochs s = Tracker.epochOf st s := rfl

theorem epochIn_mapSet (m : List (Nat × Nat)) (k k' v : Nat) :
    epochIn (mapSet m k v) k' = if k' = k then v else epochIn m k' := by
  unfold epochIn; rw [mapGet_mapSet]; split <;> rfl

theorem epoch_next_eq (m : List (Nat × Nat)) (s : Nat) :
    epoch_next (some m) s = (some (epochIn m s + 1), some (mapSet m s (epochIn m s + 1))) := by
  unfold epoch_next epochIn
  cases h : mapGet m s <;> simp [h]

theorem epoch_skip_eq (m : List (Nat × Nat)) (s n : Nat) :
    epoch_skip (some m) s n = ((), some (mapSet m s (epochIn m s + n))) := by
  unfold epoch_skip epochIn
  cases h : mapGet m s <;> simp [h]

/-- The source writes the epoch map in place (`mapSet`); the model's `setEpoch` filters and re-appends. The two maps are not
equal but answer every lookup alike: hence `∃ m'` and the same lookups, here and in `tie_epoch_skip`. -/
theorem tie_epoch_next (m : List (Nat × Nat)) (s : Nat) :
    ∃ m', epoch_next (some m) s = (some (epochIn m s + 1), some m') ∧
      ∀ s', epochIn m' s' = if s' = s then epochIn m s + 1 else epochIn m s' :=
  ⟨_, epoch_next_eq m s, fun s' => epochIn_mapSet m s s' _⟩

theorem tie_epoch_skip (m : List (Nat × Nat)) (s n : Nat) :
    ∃ m', epoch_skip (some m) s n = ((), some m') ∧
      ∀ s', epochIn m' s' = if s' = s then epochIn m s + n else epochIn m s' :=
  ⟨_, epoch_skip_eq m s n, fun s' => epochIn_mapSet m s s' _⟩

theorem tie_epoch_current (m : List (Nat × Nat)) (s : Nat) :
    epoch_current (some m) s = (some (epochIn m s), some m) := by
  unfold epoch_current
  cases h : mapGet m s <;> simp [epochIn, h]

theorem tie_epoch_none (s n : Nat) :
    epoch_next none s = (none, none) ∧ epoch_skip none s n = ((), none) ∧ epoch_current none s = (none, none) := ⟨rfl, rfl, rfl⟩

/-- **the idle rule of the source**, with an epoch database (`some st.epochs`): a track answers the idle lookup of a scene iff it
belongs to that scene, was not updated in the scene's current epoch, and is not expired — collected or not — which is the filter
of the model's `idle`. Without a database the source panics (`current_epoch_with_scene(..).unwrap()`), the generated lookup reads
a default epoch `0`; no statement covers that case -/
theorem tie_idle_lookup_sort (cfg : Tracker.Cfg) (st : Tracker.St) (scene : Nat) (t : Tracker.Trk) :
    idle_lookup_sort (some st.epochs) cfg.maxIdle scene t.scene t.lastUpd =
      (t.scene == scene && !Tracker.expired cfg st t && !(t.lastUpd == Tracker.epochOf st scene)) := by
  unfold idle_lookup_sort
  rw [tie_epoch_baked, tie_epoch_current]
  simp only [epochIn_eq_epochOf]
  by_cases hs : scene = t.scene
  · subst hs
    cases Tracker.expired cfg st t <;> by_cases he : t.lastUpd = Tracker.epochOf st t.scene <;> simp [he]
  · have : ¬ t.scene = scene := fun h => hs h.symm
    simp [hs, this]

/-- generated from its own source file and, as the source stands, the same text: a change to either lookup breaks this line -/
theorem tie_idle_lookup_visual (cfg : Tracker.Cfg) (st : Tracker.St) (scene : Nat) (t : Tracker.Trk) :
    idle_lookup_visual (some st.epochs) cfg.maxIdle scene t.scene t.lastUpd =
      (t.scene == scene && !Tracker.expired cfg st t && !(t.lastUpd == Tracker.epochOf st scene)) :=
  tie_idle_lookup_sort cfg st scene t

end SimVerif.Tie
