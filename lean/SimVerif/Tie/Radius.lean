import SimVerif.Gen.KRadius
import SimVerif.Lemmas.Geom
/-!
# Tie (DESIGN.md 14.8): `get_radius`, `area` of `/repo/src/utils/bbox.rs` = the model's `radiusSq`, `area`.
`SimVerif.Gen.K.*` is regenerated from the Rust source by `translator/kernels.py` on every run; `sqrt` is an arbitrary function.
The translator skips `assert!`s; here and in `Tie/Inter`, `Tie/Dist`, `Tie/Cache` they are not hypotheses either.
-/
set_option linter.unusedSectionVars false
namespace SimVerif.Tie
open SimVerif.Geom
variable {α : Type} [Field α] [LinearOrder α]

theorem tie_area (u : UBox α) : Gen.K.area u = area u := rfl

theorem tie_get_radius (sqrt : α → α) (u : UBox α) : Gen.K.get_radius sqrt u = sqrt (radiusSq u) := by
  unfold Gen.K.get_radius radiusSq
  simp only [two_eq]

end SimVerif.Tie
