import SimVerif.Gen.KOptimize
import SimVerif.Props.C07s
import SimVerif.Tie.Attr
/-!
# Tie: the SORT observation step

`Gen/KOptimize.lean` is regenerated on every run from `SortMetric::optimize` / `postprocess_distances`
(`trackers/sort/metric.rs`), the default method `TrackAttributesKalmanPrediction::make_prediction`
(`trackers/kalman_prediction.rs`) with the four accessors of `SortAttributes` it goes through, and
`TryFrom<KalmanState<X>> for Universal2DBox` (`utils/kalman.rs`). A panic (`unwrap` of `None` / `Err`) is the value
`none`: of the source's panics the statements cover the missing last observation, the missing box, and the state-to-box
`unwrap` of `make_prediction` (which cannot fail, `tie_kstate_to_box`). They do not cover `solve_lower_triangular(..).unwrap()`
inside `update`: the generated `box_update` takes a total `solveLower`, so where an innovation variance is 0 (a first detection
of height 0) the source panics and `tie_sort_optimize` still gives `some …`; only `sort_step_first` / `sort_step_next` carry the
non-zero premise.
-/
set_option linter.unusedSectionVars false
namespace SimVerif.Tie
open SimVerif.Kalman SimVerif.C07 SimVerif.Gen.K SimVerif.Geom Matrix

variable {α : Type} [Field α] [LinearOrder α]

def boxOfState (s : KState α) : CBox α :=
  { xc := s.1 (Sum.inl 0) 0, yc := s.1 (Sum.inl 1) 0,
    angle := if s.1 (Sum.inl 2) 0 = 0 then none else some (s.1 (Sum.inl 2) 0),
    aspect := s.1 (Sum.inl 3) 0, height := s.1 (Sum.inl 4) 0, conf := 1, cache := none }

/-- the estimated box `optimize` stores is the updated positions: `xc, yc, aspect, height` are the posterior means of
coordinates 0, 1, 3, 4, the angle that of coordinate 2 (`None` when it is exactly 0); the confidence is 1 here and is
overwritten with the detection's by `make_prediction` -/
theorem boxOfState_block (cs : Fin 5 → C1 α) :
    boxOfState (col (toMean cs), toCov cs) =
      { xc := (cs 0).p, yc := (cs 1).p, angle := if (cs 2).p = 0 then none else some (cs 2).p,
        aspect := (cs 3).p, height := (cs 4).p, conf := 1, cache := none } := by
  rfl

/-- **`Universal2DBox::try_from(state)` on the 10-dimensional state never fails** and reads the five positions -/
theorem tie_kstate_to_box (s : KState α) : kstate_to_box 10 s = some (boxOfState s) := by
  unfold kstate_to_box boxOfState cbox_new
  simp only [decide_eq_true_eq]
  rfl

/-- a state shorter than a box is refused (the `OutOfRange` branch) -/
theorem kstate_to_box_short (x : Nat) (h : x < 5) (s : KState α) : kstate_to_box x s = none := by
  unfold kstate_to_box; simp [h]

/-- one filter step on the detection `z`: `update (predict (state, or initiate z)) z` -/
def kalmanStep (solveLower : {r c : Type} → [Fintype r] → [DecidableEq r] → Matrix r r α → Matrix r c α → Matrix r c α)
    (dt : α) (a : SAttrs α) (z : CBox α) : KState α :=
  box_update solveLower box_update_matrix a.position_weight
    (box_predict (box_motion_matrix dt) a.position_weight a.velocity_weight
      (a.state.getD (box_initiate a.position_weight a.velocity_weight (toU z)))) (toU z)

theorem tie_make_prediction (solveLower : {r c : Type} → [Fintype r] → [DecidableEq r] → Matrix r r α → Matrix r c α → Matrix r c α)
    (dt : α) (a : SAttrs α) (z : CBox α) :
    make_prediction solveLower dt a z =
      some ({ a with state := some (kalmanStep solveLower dt a z) },
            { boxOfState (kalmanStep solveLower dt a z) with conf := z.conf }) := by
  obtain ⟨pb, ob, tl, st, pw, vw, hl⟩ := a
  cases st <;>
    simp only [make_prediction, kalmanStep, sattr_get_state, sattr_get_position_weight, sattr_get_velocity_weight,
      sattr_set_state, tie_kstate_to_box, Option.getD_none, Option.getD_some]

/-- the box `optimize` stores: in IoU mode with its vertices generated (only rotated boxes have any) -/
def storedBox (cos sin : α → α) (method : PosMetric α) (b : CBox α) : CBox α :=
  match method with
  | .maha => b
  | .iou _ => cbox_gen_vertices cos sin b

/-- `hlen`: the source tests `observed_boxes.len()` only and pushes the two histories together -/
theorem tie_sort_optimize {F : Type} (solveLower : {r c : Type} → [Fintype r] → [DecidableEq r] → Matrix r r α → Matrix r c α → Matrix r c α)
    (dt : α) (cos sin : α → α) (method : PosMetric α) (a : SAttrs α) (pre : List (Option (CBox α) × F)) (z : CBox α) (f : F)
    (hlen : a.observed_boxes.length = a.predicted_boxes.length) :
    sort_optimize solveLower dt cos sin method a (pre ++ [(some z, f)]) =
      (let s' := kalmanStep solveLower dt a z
       let pb : CBox α := { boxOfState s' with conf := z.conf }
       some ({ a with state := some s', track_length := a.track_length + 1,
                      observed_boxes := pushB a.observed_boxes z a.history_length,
                      predicted_boxes := pushB a.predicted_boxes pb a.history_length },
             [(some (storedBox cos sin method pb), f)])) := by
  unfold sort_optimize
  simp only [List.getLast?_concat, tie_make_prediction]
  simp only [sort_update_history_eq _ _ _ _ _ _ hlen]
  cases method <;> rfl

/-- `optimize` panics when there is nothing to optimize … -/
theorem sort_optimize_empty {F : Type} (solveLower : {r c : Type} → [Fintype r] → [DecidableEq r] → Matrix r r α → Matrix r c α → Matrix r c α)
    (dt : α) (cos sin : α → α) (method : PosMetric α) (a : SAttrs α) :
    sort_optimize (F := F) solveLower dt cos sin method a [] = none := rfl

/-- … or when the last observation carries no box -/
theorem sort_optimize_nobox {F : Type} (solveLower : {r c : Type} → [Fintype r] → [DecidableEq r] → Matrix r r α → Matrix r c α → Matrix r c α)
    (dt : α) (cos sin : α → α) (method : PosMetric α) (a : SAttrs α) (pre : List (Option (CBox α) × F)) (f : F) :
    sort_optimize solveLower dt cos sin method a (pre ++ [(none, f)]) = none := by
  unfold sort_optimize
  simp only [List.getLast?_concat]

theorem tie_sort_postprocess {M : Type} (l : List (MOk M)) :
    sort_postprocess_distances l = l.filter (fun r => r.attribute_metric.isSome) := rfl

/-- first observation of a track (no state yet): `initiate z`, predicted, updated on `z` — `init1`, `predict1`,
`update1` of `Model/Kalman.lean` in every coordinate, with the source's noise vectors -/
theorem sort_step_first (solveLower : {r c : Type} → [Fintype r] → [DecidableEq r] → Matrix r r α → Matrix r c α → Matrix r c α)
    (hsolve : SolveLowerDiag solveLower) (a : SAttrs α) (z : CBox α) (hst : a.state = none) :
    let sp := box_std_position a.position_weight 2 (1 / 100) z.height
    let sv := box_std_velocity a.velocity_weight 10 (1 / 100000) z.height
    let c0 : Fin 5 → C1 α := fun i => init1 (ofL (boxMeas (toU z)) i) (ofL sp i) (ofL sv i)
    let qa := box_std_position a.position_weight 1 (1 / 100) (c0 4).p
    let qb := box_std_velocity a.velocity_weight 1 (1 / 100000) (c0 4).p
    let c1 : Fin 5 → C1 α := fun i => predict1 (c0 i) (ofL qa i * ofL qa i) (ofL qb i * ofL qb i)
    let r := box_std_position a.position_weight 1 (1 / 10) (c1 4).p
    (∀ i, s1 (c1 i) (ofL r i * ofL r i) ≠ 0) →
    kalmanStep solveLower 1 a z =
      (col (toMean (fun i => update1 (c1 i) (ofL r i * ofL r i) (ofL (boxMeas (toU z)) i))),
       toCov (fun i => update1 (c1 i) (ofL r i * ofL r i) (ofL (boxMeas (toU z)) i))) := by
  intro sp sv c0 qa qb c1 r hs
  unfold kalmanStep
  rw [hst, Option.getD_none, tie_box_initiate]
  rw [C07_source_predict]
  exact C07_source_update solveLower hsolve c1 a.position_weight (toU z) hs

theorem sort_step_next (solveLower : {r c : Type} → [Fintype r] → [DecidableEq r] → Matrix r r α → Matrix r c α → Matrix r c α)
    (hsolve : SolveLowerDiag solveLower) (a : SAttrs α) (z : CBox α) (cs : Fin 5 → C1 α)
    (hst : a.state = some (col (toMean cs), toCov cs)) :
    let qa := box_std_position a.position_weight 1 (1 / 100) (cs 4).p
    let qb := box_std_velocity a.velocity_weight 1 (1 / 100000) (cs 4).p
    let c1 : Fin 5 → C1 α := fun i => predict1 (cs i) (ofL qa i * ofL qa i) (ofL qb i * ofL qb i)
    let r := box_std_position a.position_weight 1 (1 / 10) (c1 4).p
    (∀ i, s1 (c1 i) (ofL r i * ofL r i) ≠ 0) →
    kalmanStep solveLower 1 a z =
      (col (toMean (fun i => update1 (c1 i) (ofL r i * ofL r i) (ofL (boxMeas (toU z)) i))),
       toCov (fun i => update1 (c1 i) (ofL r i * ofL r i) (ofL (boxMeas (toU z)) i))) := by
  intro qa qb c1 r hs
  unfold kalmanStep
  rw [hst, Option.getD_some, C07_source_predict]
  exact C07_source_update solveLower hsolve c1 a.position_weight (toU z) hs

end SimVerif.Tie
