import SimVerif.Gen.LAttr
import SimVerif.Model.Tracker
/-!
# Tie (DESIGN.md 14.8): the attribute bookkeeping of the trackers
(`SimVerif.Gen.L.*`, regenerated on every run from `&mut self` methods by the state-passing translation) = the tracker
model: `update_history` of `SortAttributes` / `VisualAttributes` is the model's `pushBounded` on every bounded history plus
`len + 1`; `merge` takes the candidate's epoch, custom object id (and voting type), what `applyPick` does for a continued
track; the attribute update sets epoch, scene and custom id of a new candidate.
-/
namespace SimVerif.Tie
open SimVerif.Gen.L SimVerif.Tracker

/-- bounded history, any element type; at `Nat` it is the model's `pushBounded`, by definition -/
def pushB {β : Type} (h : List β) (x : β) (n : Nat) : List β :=
  let h' := h ++ [x]
  if n > 0 && h'.length > n then h'.drop 1 else h'

theorem pushB_getLast {β : Type} (h : List β) (x : β) (n : Nat) : (pushB h x n).getLast? = some x := by
  unfold pushB
  simp only
  split
  · rename_i hc
    cases h with
    | nil => simp at hc; omega
    | cons a t => simp
  · simp

theorem pushB_length_le {β : Type} (h : List β) (x : β) (n : Nat) (hn : 0 < n) (hl : h.length ≤ n) :
    (pushB h x n).length ≤ n := by
  unfold pushB
  simp only
  split <;> rename_i hc <;> simp [hn] at hc ⊢ <;> omega

theorem sort_update_history_observed {β : Type} (hl len : Nat) (obs pred : List β) (ob pb : β) :
    (sort_update_history hl len obs pred ob pb).2.1 = pushB obs ob hl := by
  simp only [sort_update_history, pushB, List.drop_one]
  split <;> rfl

/- The source tests the length of the observed history only and pops every history: the others are pushed as `pushB` does
only when they are as long (`h`, `h1`, `h2`). -/
theorem sort_update_history_eq {β : Type} (hl len : Nat) (obs pred : List β) (ob pb : β) (h : obs.length = pred.length) :
    sort_update_history hl len obs pred ob pb = (len + 1, pushB obs ob hl, pushB pred pb hl) := by
  unfold sort_update_history pushB
  simp only [List.length_append, List.length_cons, List.length_nil, h]
  by_cases hc : (decide (hl > 0) && decide (pred.length + (0 + 1) > hl)) = true
  · simp [hc]
  · simp [hc]

theorem visual_update_history_eq {β φ : Type} (hl len : Nat) (obs pred : List β) (feats : List φ) (ob pb : β) (f : φ)
    (h1 : obs.length = pred.length) (h2 : obs.length = feats.length) :
    visual_update_history hl len obs pred feats ob pb f =
      (len + 1, pushB obs ob hl, pushB pred pb hl, pushB feats f hl) := by
  unfold visual_update_history pushB
  have h3 : pred.length = feats.length := h1 ▸ h2
  simp only [List.length_append, List.length_cons, List.length_nil, h1, h3]
  by_cases hc : (decide (hl > 0) && decide (feats.length + (0 + 1) > hl)) = true
  · simp [hc]
  · simp [hc]

theorem tie_sort_update_history (hl len : Nat) (obs pred : List Nat) (ob pb : Nat) (h : obs.length = pred.length) :
    sort_update_history hl len obs pred ob pb = (len + 1, pushBounded obs ob hl, pushBounded pred pb hl) :=
  sort_update_history_eq hl len obs pred ob pb h

theorem tie_visual_update_history (hl len : Nat) (obs pred feats : List Nat) (ob pb f : Nat)
    (h1 : obs.length = pred.length) (h2 : obs.length = feats.length) :
    visual_update_history hl len obs pred feats ob pb f =
      (len + 1, pushBounded obs ob hl, pushBounded pred pb hl, pushBounded feats f hl) :=
  visual_update_history_eq hl len obs pred feats ob pb f h1 h2

/-- the continued track takes the candidate's epoch and custom object id -/
theorem tie_sort_merge {ι : Type} (e : Nat) (c : ι) (e' : Nat) (c' : ι) : sort_merge e c e' c' = (e', c') := rfl

theorem tie_visual_merge {ι ν : Type} (e : Nat) (c : ι) (v : ν) (e' : Nat) (c' : ι) (v' : ν) :
    visual_merge e c v e' c' v' = (e', c', v') := rfl

theorem tie_sort_apply_update {ι : Type} (e s : Nat) (c : ι) (e' s' : Nat) (c' : ι) :
    sort_apply_update e s c e' s' c' = (e', s', c') := rfl

end SimVerif.Tie
