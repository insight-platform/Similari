import SimVerif.Gen.KInter
import SimVerif.Tie.Radius
import SimVerif.Lemmas.Clip
/-!
# Tie (DESIGN.md 14.8): closed-form intersection, IoU formulas, the too-far test and the two clipping
primitives of `/repo/src/utils/{bbox,clipping}.rs` (`SimVerif.Gen.K.*`, regenerated on every
run) = the model of `SimVerif/Model/Geom.lean` that the C08 / C02 theorems are about. The four positivity `assert!`s of
`too_far` and of `BoundingBox::intersection` are not hypotheses of `tie_too_far`, `tie_bb_iou`: the ties hold for every box,
also where the source panics.
-/
namespace SimVerif.Tie
open SimVerif.Geom
variable {α : Type} [Field α] [LinearOrder α]

theorem tie_bb_intersection (l r : BBox α) : Gen.K.bb_intersection l r = aabbInter l r := by
  unfold Gen.K.bb_intersection aabbInter
  simp only [Bool.and_eq_true, decide_eq_true_eq]

theorem tie_bb_iou (l r : BBox α) : Gen.K.bb_iou (some l) (some r) = some (aabbIou l r) := by
  unfold Gen.K.bb_iou aabbIou
  simp only [tie_bb_intersection]

theorem tie_bb_iou_none_left (r : Option (BBox α)) : Gen.K.bb_iou none r = none := by
  unfold Gen.K.bb_iou; rfl

theorem tie_bb_iou_none_right (l : Option (BBox α)) : Gen.K.bb_iou l none = none := by
  unfold Gen.K.bb_iou; cases l <;> rfl

theorem tie_too_far (sqrt : α → α) (l r : UBox α) :
    Gen.K.too_far sqrt l r =
      decide ((l.xc - r.xc) * (l.xc - r.xc) + (l.yc - r.yc) * (l.yc - r.yc) >
        (sqrt (radiusSq l) + sqrt (radiusSq r)) * (sqrt (radiusSq l) + sqrt (radiusSq r))) := by
  unfold Gen.K.too_far
  simp only [tie_get_radius]

theorem tie_u_iou (l r : UBox α) (cl sl cr sr : α) :
    Gen.K.u_iou (fun a b => intersection a b cl sl cr sr) (some l) (some r) = iou l r cl sl cr sr := by
  unfold Gen.K.u_iou iou
  simp only [decide_eq_true_eq]

theorem tie_is_inside (q p1 p2 : Pt α) : Gen.K.is_inside q p1 p2 = isInside q p1 p2 := rfl

/-- `compute_intersection` (interpolation between the signed offsets of the two end points from the clip line) is the
model's line-line intersection whenever the offsets differ … -/
theorem tie_compute_intersection [IsStrictOrderedRing α] (cp1 cp2 s e : Pt α) (hD : cross cp1 s e - cross cp2 s e ≠ 0) :
    Gen.K.compute_intersection cp1 cp2 s e = computeIntersection cp1 cp2 s e := by
  rw [C08c.computeIntersection_lerp cp1 cp2 s e hD]
  rfl

/-- … which is the case at both call sites of the clip loop: it is called only for end points on different sides of
the clip edge -/
theorem tie_compute_intersection_called [IsStrictOrderedRing α] (cp1 cp2 s e : Pt α) (h : isInside cp1 s e ≠ isInside cp2 s e) :
    Gen.K.compute_intersection cp1 cp2 s e = computeIntersection cp1 cp2 s e :=
  tie_compute_intersection cp1 cp2 s e (cross_ne_of_sides h)

end SimVerif.Tie
