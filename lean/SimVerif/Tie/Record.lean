import SimVerif.Gen.LRecord
/-!
# Tie (DESIGN.md 14.13): the records the trackers hand out
(`From<&Track> for SortTrack` of the SORT and VisualSORT trackers, `From<Track> for WastedSortTrack` /
`WastedVisualSortTrack`; regenerated on every run): every field is the attribute it names; the observed and predicted box of
a record are the **last** entries of the track's bounded histories; a wasted-track record carries the whole histories, in
order. The right-hand sides are literals of the generated record structures `RecG` / `WastedG`: no model definition occurs in
them. The source's `observed_boxes.back().unwrap()` panics on an empty history; the ties read it as `getLast?`, `none` there,
without a hypothesis that the histories are non-empty.
-/
namespace SimVerif.Tie
open SimVerif.Gen.L

theorem tie_sort_track_of {β ι : Type} (id : Nat) (cu : ι) (e s len : Nat) (obs pred : List β) :
    sort_track_of id cu e s len obs pred =
      { id := id, custom := cu, visual := false, epoch := e, scene := s, observed := obs.getLast?, predicted := pred.getLast?, length := len } := rfl

/-- VisualSORT: the record reports visual voting exactly when the track's `voting_type` attribute says so (absent = positional) -/
theorem tie_visual_track_of {β ι : Type} (id : Nat) (cu : ι) (vt : Option Bool) (e s len : Nat) (obs pred : List β) :
    visual_track_of id cu vt e s len obs pred =
      { id := id, custom := cu, visual := vt.getD false, epoch := e, scene := s, observed := obs.getLast?, predicted := pred.getLast?, length := len } := rfl

theorem tie_wasted_sort_track_of {β : Type} (id e s len : Nat) (obs pred : List β) :
    wasted_sort_track_of id e s len obs pred =
      { id := id, epoch := e, scene := s, length := len, observed := obs.getLast?, predicted := pred.getLast?, predictedH := pred, observedH := obs } := rfl

theorem tie_wasted_visual_track_of {β φ : Type} (id e s len : Nat) (obs pred : List β) (feats : List (Option φ)) :
    wasted_visual_track_of id e s len obs pred feats =
      { id := id, epoch := e, scene := s, length := len, observed := obs.getLast?, predicted := pred.getLast?, predictedH := pred, observedH := obs,
        featuresH := feats } := by
  unfold wasted_visual_track_of
  simp only [listOrOptMap, ListOrOptMap.mapC]
  induction feats with
  | nil => rfl
  | cons f rest ih => cases f <;> simp_all

end SimVerif.Tie
