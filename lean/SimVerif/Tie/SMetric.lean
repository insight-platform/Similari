import SimVerif.Gen.KSMetric
import SimVerif.Model.SortMetric
import SimVerif.Tie.Inter
import SimVerif.Tie.Kalman
/-!
# Tie: `SortMetric::metric`
(`SimVerif.Gen.K.sort_metric`, regenerated on every run) = `metricIoU` / `metricMaha` of
`SimVerif/Model/SortMetric.lean` (C02). The too-far test, the polygon intersection and the Kalman
distance are parameters of the generated kernel. The first two are instantiated with the model's functions
(their own ties: `Tie/Inter.lean`, the correspondence run of C08). The distance stays a parameter `kfdist (wp, wv) cb`: the
translator drops the track's filter state (`get_state().unwrap()` is read as `()`, its panic is not modelled), and no theorem
puts `Gen.K.box_distance` in its place, so `tie_sort_metric_maha` ties the gating and the division by the confidence, not
the distance itself.
-/
set_option linter.unusedSectionVars false
namespace SimVerif.Tie
open SimVerif.Geom SimVerif.Kalman SimVerif.SortMetric
variable {α : Type} [Field α] [LinearOrder α]

/-- the source's `map(..).filter(..)` is the model's `bind` with the test inside -/
theorem filter_map_eq_bind {β γ : Type} (p : γ → Bool) (f : β → γ) (o : Option β) :
    (o.map f).filter p = o.bind fun e => if p (f e) then some (f e) else none := by
  cases o <;> rfl

theorem tie_sort_metric_iou (kfdist : α × α → UBox α → α) (chi : Nat → α) (upper thr minc : α)
    (cb tb : UBox α) (cc sc ct st wp wv : α) :
    Gen.K.sort_metric tooFar (fun a b => intersection a b cc sc ct st) kfdist chi upper (.iou thr) minc cb tb wp wv =
      (metricIoU thr minc cb tb cc sc ct st).map (fun o => (o, none)) := by
  unfold Gen.K.sort_metric metricIoU confOf
  by_cases h : tooFar cb tb = true
  · simp [h]
  · simp [h, tie_u_iou, filter_map_eq_bind]

theorem tie_sort_metric_maha (inter : UBox α → UBox α → α) (kfdist : α × α → UBox α → α) (chi : Nat → α) (upper minc : α)
    (cb tb : UBox α) (wp wv : α) :
    Gen.K.sort_metric tooFar inter kfdist chi upper .maha minc cb tb wp wv =
      (metricMaha (chi Gen.boxCostGateInverted) upper minc cb tb (kfdist (wp, wv) cb)).map (fun o => (o, none)) := by
  unfold Gen.K.sort_metric metricMaha confOf
  by_cases h : tooFar cb tb = true
  · simp [h]
  · simp [h, tie_box_cost_inverted]

end SimVerif.Tie
