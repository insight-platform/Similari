import SimVerif.Gen.LBase
import Mathlib.Algebra.Order.Ring.Rat
/-!
# `mapGet`, `mapSet` and `cmpQ` of `Gen/LBase.lean`, characterised once

`mapGet` / `mapSet` (a `HashMap<u64, V>` read as an association list) are only ever looked up by key, so the ties need of them
what `mapGet` answers after an operation, and where `len()` or a write-back is involved what `mapSet` does to the keys;
`cmpQ` only ever occurs as the stable-sort comparison `cmpQ a b != gt`. The same lookup text appears as `mapGet`,
`lookupEpoch`, `dbGet`, `shGet`, `Store.afind`, `getObs`; only `mapGet` is characterised, and proofs cross between the names
by `rfl`. The writers differ more: `dbSet = setObs` by `rfl`, `shPut = mapSet` only by induction (`shPut_eq_mapSet`), and
`shInsert` and the model's `setEpoch` re-append, so they agree with `mapSet` only up to lookup.

Loop lemmas here and in the other tie modules take the loop body as a parameter `f` with its equation
(`(f) (hf : ∀ st x, f st x = …)`) instead of naming the body: the generated closures are `match`es on a tuple, which do not
unify syntactically with the `fun st x => …` one would write; `hf` is closed at each use by `rfl`, or by a case split on what
the closure matches on.

Names across `Tie/`: `tie_x` — the generated `x` equals its model counterpart or specification (the statements DESIGN.md
cites); `gen_x` — the generated text of `x`, or of a part several generated functions share, in the form the proofs work with,
checked by unfolding; `x_core` — the part of a tie that holds for every number of coordinates (`KalmanMat`); `x_id` — `x` with
the `HashMap` iteration order instantiated by `id`, the first-appearance order of the model (`Voting`).
-/
namespace SimVerif.Tie
open SimVerif.Gen.L

theorem cmpQ_ne_gt (a b : Rat) : (cmpQ a b != Ordering.gt) = decide (a ≤ b) := by
  unfold cmpQ
  rcases lt_trichotomy a b with h | rfl | h
  · rw [if_pos h]; exact (decide_eq_true h.le).symm
  · rw [if_neg (lt_irrefl a), if_neg (lt_irrefl a)]; exact (decide_eq_true le_rfl).symm
  · rw [if_neg h.not_gt, if_pos h]; exact (decide_eq_false h.not_ge).symm

variable {β γ : Type}

@[simp] theorem mapGet_nil (k : Nat) : mapGet ([] : List (Nat × β)) k = none := rfl

theorem mapGet_cons (p : Nat × β) (m : List (Nat × β)) (k : Nat) :
    mapGet (p :: m) k = if k = p.1 then some p.2 else mapGet m k := by
  unfold mapGet
  rw [List.find?_cons]
  by_cases h : k = p.1
  · rw [if_pos h, show (p.1 == k) = true from beq_iff_eq.mpr h.symm]; rfl
  · rw [if_neg h, show (p.1 == k) = false from beq_eq_false_iff_ne.mpr (Ne.symm h)]

theorem mapGet_mapSet (m : List (Nat × β)) (k k' : Nat) (v : β) :
    mapGet (mapSet m k v) k' = if k' = k then some v else mapGet m k' := by
  induction m with
  | nil => simp [mapSet, mapGet_cons]
  | cons p rest ih =>
    simp only [mapSet, beq_iff_eq]
    split
    · rename_i hp
      simp only [mapGet_cons, hp]
      split <;> simp [*]
    · rename_i hp
      simp only [mapGet_cons, ih]
      by_cases h : k' = k
      · simp [h, Ne.symm hp]
      · simp [h]

theorem mapSet_self (m : List (Nat × β)) (k : Nat) (v : β) (h : mapGet m k = some v) : mapSet m k v = m := by
  induction m with
  | nil => cases h
  | cons p rest ih =>
    rw [mapGet_cons] at h
    unfold mapSet
    split at h
    · next hk => rw [if_pos (by simp [hk]), hk, ← Option.some.inj h]
    · next hk => rw [if_neg (by simpa using Ne.symm hk), ih h]

theorem mapSet_keys (m : List (Nat × β)) (k : Nat) (v : β) :
    (mapSet m k v).map (·.1) = if k ∈ m.map (·.1) then m.map (·.1) else m.map (·.1) ++ [k] := by
  induction m with
  | nil => rfl
  | cons p rest ih =>
    simp only [mapSet, beq_iff_eq]
    split
    · next hp => rw [List.map_cons, List.map_cons, if_pos (hp ▸ List.mem_cons_self), hp]
    · next hp =>
      simp only [List.map_cons, ih, List.mem_cons, Ne.symm hp, false_or]
      split <;> rfl

theorem mapGet_map_snd (f : β → γ) (m : List (Nat × β)) (q : Nat) :
    mapGet (m.map (fun (p : Nat × β) => (p.1, f p.2))) q = (mapGet m q).map f := by
  induction m with
  | nil => rfl
  | cons p rest ih => simp only [List.map_cons, mapGet_cons, ih]; split <;> rfl

theorem mapGet_map_key (f : Nat → β) (ks : List Nat) (q : Nat) :
    mapGet (ks.map (fun k => (k, f k))) q = if q ∈ ks then some (f q) else none := by
  induction ks with
  | nil => rfl
  | cons k rest ih =>
    simp only [List.map_cons, mapGet_cons, ih, List.mem_cons]
    by_cases h : q = k
    · simp [h]
    · simp [h]

theorem mapGet_map_key_val {α : Type} (key : α → Nat) (f : α → β) (l : List α) (k : Nat) :
    mapGet (l.map fun a => (key a, f a)) k = (l.find? (fun a => key a == k)).map f := by
  simp [mapGet, List.find?_map, Function.comp_def]

/-- **get-or-insert and push** (`map.entry(key).or_default().push(x)`, or the same through `get_mut`) in a loop whose state holds
the map (`π`): afterwards the entry of `q` is what it was, followed by the elements with key `q` in loop order; a key nothing
was pushed for gets no entry -/
theorem mapGet_foldl_push {σ α : Type} (π : σ → List (Nat × List β)) (key : α → Nat) (val : α → β) (g : σ → α → σ)
    (hg : ∀ st x, π (g st x) = mapSet (π st) (key x) ((mapGet (π st) (key x)).getD [] ++ [val x]))
    (l : List α) (st : σ) (q : Nat) :
    mapGet (π (l.foldl g st)) q =
      (let own := l.filter (fun x => key x == q)
       match mapGet (π st) q with
       | some v => some (v ++ own.map val)
       | none => if own = [] then none else some (own.map val)) := by
  induction l generalizing st with
  | nil => cases h : mapGet (π st) q <;> simp [h]
  | cons x rest ih =>
    rw [List.foldl_cons, ih, hg, mapGet_mapSet, List.filter_cons]
    by_cases hq : key x = q
    · subst hq; cases mapGet (π st) (key x) <;> simp
    · rw [if_neg (Ne.symm hq), if_neg (mt beq_iff_eq.mp hq)]

end SimVerif.Tie
