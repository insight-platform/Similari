import SimVerif.Gen.LAutoWaste
import SimVerif.Model.Tracker
/-!
# Tie (DESIGN.md 14.14): the periodic collection countdown at the head of every `predict`
(`if self.auto_waste.counter == 0 { self.auto_waste(); counter = periodicity } else { counter -= 1 }` of the four trackers,
and `TrackerAPI::set_auto_waste`; each regenerated on every run from its own source file) = `awStep` / `setAutoWaste` of
`SimVerif/Model/Tracker.lean`.
-/
namespace SimVerif.Tie
open SimVerif.Gen.L SimVerif.Tracker

def awResult (r : St × Nat × Nat) : St := { r.1 with awCounter := r.2.1, awPeriod := r.2.2 }

theorem tie_aw_sort (cfg : Cfg) (st : St) : awResult (aw_sort (collect cfg) st st.awCounter st.awPeriod) = awStep cfg st := by
  unfold aw_sort awStep awResult
  by_cases h : st.awCounter = 0 <;> simp [h, collect]
/- the other three countdowns are, as the source stands, the same text: a change to one of them breaks its line -/
theorem tie_aw_batch_sort (cfg : Cfg) (st : St) : awResult (aw_batch_sort (collect cfg) st st.awCounter st.awPeriod) = awStep cfg st :=
  tie_aw_sort cfg st
theorem tie_aw_visual (cfg : Cfg) (st : St) : awResult (aw_visual (collect cfg) st st.awCounter st.awPeriod) = awStep cfg st :=
  tie_aw_sort cfg st
theorem tie_aw_batch_visual (cfg : Cfg) (st : St) : awResult (aw_batch_visual (collect cfg) st st.awCounter st.awPeriod) = awStep cfg st :=
  tie_aw_sort cfg st

/-- the countdown is reset to 0: the next `predict` collects -/
theorem tie_aw_set (st : St) (p : Nat) :
    { st with awCounter := (aw_set st.awCounter st.awPeriod p).1, awPeriod := (aw_set st.awCounter st.awPeriod p).2 } = setAutoWaste st p := rfl

end SimVerif.Tie
