import SimVerif.Gen.LVoting
import SimVerif.Model.Voting
import SimVerif.Tie.Map
import SimVerif.Lemmas.Voting
/-!
# Tie: `TopNVoting::winners` and `BestFitVoting::winners` (`Gen.L.topn_winners`, `bestfit_winners`)

Both build their candidates alike (`gen_cands`: the stateful `filter` closure that tracks the largest distance seen — hoisted
into a fold —, `into_group_map`, the vote-count filter, the weights); TopN then fills per-query buckets through `get_mut`, sorts
each stably and `truncate`s it, BestFit sorts all candidates, runs the award loop and groups by query. The iteration order of the intermediate
`HashMap` of `into_group_map` is the parameter `order`: for every `order` the ties equate the source with expressions over
`candsOrd order` (defined here); only at `order = id` (first-appearance order, the `_id` corollaries) are these `Voting.topn` /
`Voting.bestfit` over `Voting.cands`, the functions the theorems of C17 are about. `candsOrd_perm` carries TopN over to every
permutation `order` (`Props/C17s.lean`); BestFit is tied to `bestfit` at `order = id` only.
-/
namespace SimVerif.Tie
open SimVerif.Gen.L SimVerif.Voting SimVerif.ListFacts

def keepP (maxD : Rat) (e : Dist) : Bool := match e.d with | some x => decide (x ≤ maxD) | none => false

theorem map_kept (maxD : Rat) (s : List Dist) :
    (s.filter (keepP maxD)).map (fun (x : Dist) => ((x.q, x.w), optUnwrap x.d)) = kept maxD s := by
  have h := map_filter_map_eq_filterMap id (keepP maxD) (fun x : Dist => ((x.q, x.w), optUnwrap x.d)) s
  rw [List.map_id] at h
  rw [h]
  refine congrArg (fun f => List.filterMap f s) (funext fun ⟨q, w, d⟩ => ?_)
  cases d with
  | none => rfl
  | some x => exact if_congr decide_eq_true_iff rfl rfl

theorem lsumQ_eq_rsum (l : List Rat) : lsumQ l = rsum l := List.sum_eq_foldl.symm

/-- the candidate list of the source for a given iteration order of the group map -/
def candsOrd (order : List ((Nat × Nat) × List Rat) → List ((Nat × Nat) × List Rat)) (maxD : Rat) (minVotes : Nat) (s : List Dist) : List Elt :=
  ((order (groupMap (kept maxD s))).filter (fun g => decide (g.2.length ≥ minVotes))).map
    (fun g => { q := g.1.1, w := g.1.2, weight := rsum (g.2.map (fun d => maxSeen s - d)) })

theorem optUnwrap_some {α : Type} [Inhabited α] (a : α) : optUnwrap (some a) = a := rfl

theorem gen_cands (order : List ((Nat × Nat) × List Rat) → List ((Nat × Nat) × List Rat)) (maxD : Rat) (minVotes : Nat) (s : List Dist)
    (f : Rat × List Dist → Dist → Rat × List Dist)
    (hf : ∀ x it, f x it = (maxStep x.1 it, if keepP maxD it then x.2 ++ [it] else x.2)) :
    List.map (fun x => ({ q := x.1.1, w := x.1.2, weight := lsumQ (List.map (fun d => (List.foldl f (-1, []) s).1 - d) x.2) } : Elt))
      (List.filter (fun x => decide (x.2.length ≥ minVotes))
        (order (groupMap (List.map (fun x => ((x.q, x.w), optUnwrap x.d)) (List.foldl f (-1, []) s).2))))
      = candsOrd order maxD minVotes s := by
  rw [foldl_state_filter maxStep (keepP maxD) f hf]
  simp only [List.nil_append, map_kept, lsumQ_eq_rsum]
  rfl

theorem candsOrd_id (maxD : Rat) (minVotes : Nat) (s : List Dist) : candsOrd id maxD minVotes s = cands maxD minVotes s := by
  unfold candsOrd cands groupMap
  simp only [id]
  rw [map_filter_map_eq_filterMap]
  congr 1
  funext k
  simp only [mkCand, decide_eq_true_eq]

/-- the iteration order of the `HashMap` permutes the candidates and does nothing else -/
theorem candsOrd_perm (order : List ((Nat × Nat) × List Rat) → List ((Nat × Nat) × List Rat)) (horder : ∀ l, (order l).Perm l)
    (maxD : Rat) (minVotes : Nat) (s : List Dist) : (candsOrd order maxD minVotes s).Perm (cands maxD minVotes s) := by
  rw [← candsOrd_id]
  exact ((horder _).filter _).map _

/-- `mapGet_foldl_push` at `π := id`, `val := id`; a statement of its own, kept under the name it was first given (DESIGN 14.16) -/
theorem buckets (g : List (Nat × List Elt) → Elt → List (Nat × List Elt))
    (hg : ∀ res c, g res c = mapSet res c.q ((mapGet res c.q).getD [] ++ [c]))
    (cs : List Elt) (res : List (Nat × List Elt)) (q : Nat) :
    mapGet (List.foldl g res cs) q
      = (let own := cs.filter (fun e => e.q == q)
         match mapGet res q with
         | some val => some (val ++ own)
         | none => if own = [] then none else some own) := by
  refine (mapGet_foldl_push id Elt.q id g hg cs res q).trans ?_
  simp only [id, List.map_id]
  cases mapGet res q <;> rfl

/-- **`TopNVoting::winners` of the source**: the entry of query `q` in the returned map is the model's ranking of `q`'s candidates —
stable sort by decreasing weight, cut at `topn` — and there is an entry exactly for the queries that have a candidate -/
theorem tie_topn_winners (order : List ((Nat × Nat) × List Rat) → List ((Nat × Nat) × List Rat)) (n : Nat) (maxD : Rat) (minVotes : Nat)
    (s : List Dist) (q : Nat) :
    mapGet (topn_winners order n maxD minVotes s) q =
      (let own := (candsOrd order maxD minVotes s).filter (fun e => e.q == q)
       if own = [] then none else some ((own.mergeSort wGE).take n)) := by
  unfold topn_winners
  simp only [optUnwrap_some, cmpQ_ne_gt]
  rw [gen_cands order maxD minVotes s _ (fun x it => by cases h : it.d <;> simp [maxStep, keepP, h]),
    mapGet_map_snd (fun (v : List Elt) => List.take n (v.mergeSort _)),
    buckets _ (by intro r c; cases mapGet r c.q <;> rfl)]
  exact apply_ite (Option.map _) _ _ _

theorem tie_topn_winners_id (n : Nat) (maxD : Rat) (minVotes : Nat) (s : List Dist) (q : Nat) :
    mapGet (topn_winners id n maxD minVotes s) q =
      (if (cands maxD minVotes s).filter (fun e => e.q == q) = [] then none else some (topn n maxD minVotes s q)) := by
  rw [tie_topn_winners, candsOrd_id]; rfl

/-- the award loop of the source (`for c in &mut candidates` with the `HashSet` of awarded tracks) is the model's `award` -/
theorem foldl_award (f : List Elt × List Nat → Elt → List Elt × List Nat)
    (hf : ∀ st c, f st c = if st.2.contains c.w then (st.1 ++ [{ c with w := c.q }], st.2) else (st.1 ++ [c], c.w :: st.2))
    (l : List Elt) (acc : List Elt) (taken : List Nat) :
    (List.foldl f (acc, taken) l).1 = acc ++ (award l taken).map (·.1) := by
  induction l generalizing acc taken with
  | nil => simp [award]
  | cons c rest ih =>
    rw [List.foldl_cons, hf, award]
    split <;> simp [ih]

/-- `into_group_map`, looked up: the values of a key in stream order, no entry for a key that does not occur -/
theorem mapGet_groupMapG {β : Type} (l : List (Nat × β)) (q : Nat) :
    mapGet (groupMapG l) q = if q ∈ l.map (·.1) then some ((l.filter (fun e => e.1 == q)).map (·.2)) else none := by
  unfold groupMapG
  rw [mapGet_map_key (fun k => (l.filter (fun e => e.1 == k)).map (·.2))]
  simp only [mem_firsts]

theorem mapGet_groupMapG_key {α : Type} (key : α → Nat) (xs : List α) (q : Nat) :
    mapGet (groupMapG (xs.map (fun e => (key e, e)))) q =
      (if xs.filter (fun e => key e == q) = [] then none else some (xs.filter (fun e => key e == q))) := by
  have h : q ∈ xs.map key ↔ ¬ xs.filter (fun e => key e == q) = [] := by
    rw [List.filter_eq_nil_iff, List.mem_map, not_forall]
    exact exists_congr fun e => by rw [beq_iff_eq, Classical.not_imp, not_not]
  rw [mapGet_groupMapG]
  simp only [List.map_map, List.filter_map, Function.comp_def, List.map_id', h, ite_not]

/-- **`BestFitVoting::winners` of the source**: the candidates of all queries, sorted by decreasing weight, go through the model's
`award` (a track already awarded makes the claimant fall back to itself); the entry of query `q` is its awards in that order -/
theorem tie_bestfit_winners (order : List ((Nat × Nat) × List Rat) → List ((Nat × Nat) × List Rat)) (maxD : Rat) (minVotes : Nat)
    (s : List Dist) (q : Nat) :
    mapGet (bestfit_winners order maxD minVotes s) q =
      (let all := (award ((candsOrd order maxD minVotes s).mergeSort wGE) []).map (·.1)
       if all.filter (fun e => e.q == q) = [] then none else some (all.filter (fun e => e.q == q))) := by
  unfold bestfit_winners
  simp only [optUnwrap_some, cmpQ_ne_gt]
  rw [gen_cands order maxD minVotes s _ (fun x it => by cases h : it.d <;> simp [maxStep, keepP, h]),
    foldl_award _ (fun st c => by by_cases h : c.w ∈ st.2 <;> simp [h])]
  exact mapGet_groupMapG_key Elt.q _ q

theorem tie_bestfit_winners_id (maxD : Rat) (minVotes : Nat) (s : List Dist) (q : Nat) :
    mapGet (bestfit_winners id maxD minVotes s) q =
      (if bestfit maxD minVotes s q = [] then none else some (bestfit maxD minVotes s q)) := by
  rw [tie_bestfit_winners, candsOrd_id]
  simp only [List.filter_map]
  rfl

end SimVerif.Tie
