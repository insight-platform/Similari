import SimVerif.Gen.KBox
import SimVerif.Lemmas.Geom
/-!
# Tie (DESIGN.md 14.8): box conversions, polygon vertices, equality and angle normalisation of
`/repo/src/utils/bbox.rs` (`SimVerif.Gen.K.*`, regenerated on every run) = the model of
`SimVerif/Model/Geom.lean` that the C19 theorems are about. `cos`, `sin`, `floor` are arbitrary functions.
-/
set_option linter.unusedSectionVars false
namespace SimVerif.Tie
open SimVerif.Geom
variable {α : Type} [Field α] [LinearOrder α]

theorem tie_to_universal (b : BBox α) : Gen.K.to_universal b = toUniversal b := by
  unfold Gen.K.to_universal toUniversal
  simp only [two_eq]

theorem tie_to_ltwh (u : UBox α) : Gen.K.to_ltwh u = toLtwh u := by
  unfold Gen.K.to_ltwh toLtwh
  cases h : u.angle <;> simp [two_eq]

/-- the model's vertex list at `(cos θ, sin θ)`, `θ = angle.unwrap_or(0)` -/
theorem tie_vertices (cos sin : α → α) (u : UBox α) :
    Gen.K.vertices cos sin u = vertices u (cos (u.angle.getD 0)) (sin (u.angle.getD 0)) := by
  unfold Gen.K.vertices vertices
  simp only [two_eq]

theorem tie_bb_eq (eps : α) (a b : BBox α) : Gen.K.bb_eq eps a b = beq eps a b := rfl

theorem tie_u_eq (eps : α) (a b : UBox α) : Gen.K.u_eq eps a b = ueq eps a b := rfl

theorem tie_normalize_angle (floor : α → α) (pi a : α) :
    Gen.K.normalize_angle floor pi a = normalizeAngle floor (2 * pi) a := by
  unfold Gen.K.normalize_angle normalizeAngle
  simp only [decide_eq_true_eq]

end SimVerif.Tie
