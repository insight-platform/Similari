import SimVerif.Gen.LGallery
import SimVerif.Model.Tracker
import SimVerif.Tie.Map
import Mathlib.Tactic.NormNum
/-!
# Tie: the gallery maintenance of `VisualMetric::optimize` (`Gen.L.optimize_observations`, `optimize_tail`)
= `galleryUpdate` / `featCount` of `Model/Tracker.lean`, the functions the gallery theorems of C13 are about.

The observations are read through three accessors (`feature()`, `drop_bbox()`, `visual_quality()`), which the
generated definitions take as parameters; here they are instantiated with the model's gallery entries.
-/
namespace SimVerif.Tie
open SimVerif.Gen.L SimVerif.Tracker

/-- the model's reading of an observation: feature token `0` = no feature -/
def geFeature (g : GE) : Option Nat := if g.feat != 0 then some g.feat else none
def geDropBox (g : GE) : GE := { g with box := false }

theorem geFeature_isSome (g : GE) : (geFeature g).isSome = (g.feat != 0) := by
  unfold geFeature; split <;> simp_all

/-- `push` then `swap(0, len - 1)`: the new element comes first, the old first goes last -/
theorem listSwap_snoc {α : Type} (l : List α) (x : α) :
    listSwap (l ++ [x]) 0 ((l ++ [x]).length - 1) = (match l with | [] => [x] | a :: r => x :: r ++ [a]) := by
  cases l with
  | nil => rfl
  | cons a r =>
    have hl : (a :: r ++ [x])[r.length + 1]? = some x := by
      rw [List.cons_append, List.getElem?_cons_succ, List.getElem?_append_right (Nat.le_refl _)]; simp
    simp only [listSwap, List.length_append, List.length_cons, List.length_nil, Nat.add_sub_cancel, hl]
    simp only [List.cons_append, List.getElem?_cons_zero, List.set_cons_succ,
      List.set_append_right _ _ (Nat.le_refl _), Nat.sub_self, List.set_cons_zero]

/-- the first half of the model's `galleryUpdate`; `sorted` is `C13.keptSorted old` of `Props/C13.lean` by `rfl` -/
theorem tie_optimize_observations (maxObs : Nat) (old : List GE) :
    optimize_observations geFeature geDropBox (·.quality) maxObs old =
      (let sorted := ((old.filter (fun g => g.feat != 0)).map (fun g => { g with box := false })).mergeSort
          (fun a b => decide (b.quality ≤ a.quality))
       if sorted.length ≥ maxObs then sorted.dropLast else sorted) := by
  unfold optimize_observations
  simp only [geFeature_isSome, cmpQ_ne_gt, List.dropLast_eq_take, decide_eq_true_eq]
  rfl

theorem tie_gallery_update (maxObs : Nat) (old : List GE) (new : GE) (c : Nat) :
    optimize_tail geFeature geDropBox (·.quality) maxObs old new c
      = (galleryUpdate maxObs old new, featCount (galleryUpdate maxObs old new)) := by
  unfold optimize_tail galleryUpdate featCount
  simp only [geFeature_isSome]
  rw [listSwap_snoc, tie_optimize_observations]
  generalize (if _ ≥ maxObs then _ else _ : List GE) = cut
  cases cut <;> rfl

/-- non-vacuity: a full gallery of two, the lower quality entry goes, the new observation is first and keeps its box -/
example : optimize_tail geFeature geDropBox (·.quality) 2
    [{ quality := 2, feat := 7, box := true }, { quality := 3, feat := 8, box := false }] { quality := 1, feat := 9, box := true } 0
    = ([{ quality := 1, feat := 9, box := true }, { quality := 3, feat := 8, box := false }], 2) := by
  rw [tie_gallery_update]
  norm_num [galleryUpdate, featCount, List.mergeSort, List.merge, List.MergeSort.Internal.splitInTwo]

end SimVerif.Tie
