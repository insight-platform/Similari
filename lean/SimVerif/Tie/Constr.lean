import SimVerif.Gen.LConstr
import SimVerif.Model.Constraints
import SimVerif.Lemmas.List
/-!
# Tie (DESIGN.md 14.8): `SpatioTemporalConstraints::validate` and `add_constraints`
(`SimVerif.Gen.L.constraints_validate`, `add_constraints`, regenerated on every run) = `validate` and `addConstraints` of
`SimVerif/Model/Constraints.lean` wherever the source's `assert!`s hold; where they fail the code panics and the model answers
`none`.
-/
namespace SimVerif.Tie
open SimVerif.Gen.L

/-- `hd`: the `assert!` on the distance -/
theorem tie_constraints_validate (cs : List (Nat × Rat)) (gap : Nat) (d : Rat) (hd : ¬ d < 0) :
    Constraints.validate cs gap d = some (constraints_validate cs gap d) := by
  unfold Constraints.validate constraints_validate Constraints.limitFor
  simp only [hd]
  cases List.find? _ cs <;> rfl

theorem dedupByAux_eq_dedupAux (prev : Constraints.Entry) (l : List Constraints.Entry) :
    dedupByAux (fun (x y : Nat × Rat) => match x, y with | (e1, _), (e2, _) => decide (e1 = e2)) prev l
      = Constraints.dedupAux prev l := by
  induction l generalizing prev with
  | nil => rfl
  | cons b rest ih =>
    obtain ⟨b1, b2⟩ := b
    obtain ⟨p1, p2⟩ := prev
    unfold dedupByAux Constraints.dedupAux
    by_cases h : b1 = p1 <;> simp [ih]

/-- the source pushes every new entry, `sort_by`s on the gap (stably) and `dedup_by`s equal gaps; `hpos`: the `assert!` on the
limits -/
theorem tie_add_constraints (cs new : List (Nat × Rat)) (hpos : new.all (fun e => decide (e.2 > 0)) = true) :
    Constraints.addConstraints cs new = some (add_constraints cs new) := by
  unfold Constraints.addConstraints add_constraints
  simp only [hpos, if_true]
  rw [ListFacts.foldl_append_flatMap _ (fun x => [x]) (fun _ _ => rfl) new cs, List.flatMap_singleton']
  have hle : (fun (a b : Nat × Rat) => ((fun (x y : Nat × Rat) => match x, y with | (e1, _), (e2, _) => compare e1 e2) a b) != Ordering.gt)
      = Constraints.keyLE := by
    funext ⟨a1, a2⟩ ⟨b1, b2⟩
    rw [Constraints.keyLE, Bool.eq_iff_iff]
    simp [Nat.compare_ne_gt]
  rw [hle]
  cases hs : (cs ++ new).mergeSort Constraints.keyLE with
  | nil => rfl
  | cons a rest =>
    simp only [Constraints.dedupFirst, dedupBy]
    rw [dedupByAux_eq_dedupAux]

end SimVerif.Tie
