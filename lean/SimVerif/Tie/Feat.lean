import SimVerif.Gen.KFeat
import SimVerif.Lemmas.Feature
import Mathlib.Algebra.Order.Field.Basic
/-!
# Tie: `euclidean` and `cosine` of src/distance.rs (`SimVerif.Gen.K.euclidean`, `.cosine`, regenerated on every run: index
loops over the SIMD blocks of the common prefix, `sub_assign` / `mul_assign` / `reduce_add`, the `iter().take(len).fold(..)`
of the norms) = the block-wise sums `sqEuclid`, `dot`, `sqNorm` of the model, for an arbitrary `sqrt`; and `Feature::from_vec`
of src/track/utils.rs (`Gen.K.from_vec`: a fold over `enumerate()` with the loop state as a tuple) = `pack`.
-/
namespace SimVerif.Tie
open SimVerif.Feature List
section
variable {α : Type} [CommSemiring α]

theorem foldl_add_eq {β : Type} (h : β → α) (l : List β) (a : α) :
    foldl (fun acc x => acc + h x) a l = a + lsum (l.map h) := by
  rw [← foldl_map (g := (· + ·)), ← add_zero a, foldl_assoc, add_zero]
  exact congrArg _ List.sum_eq_foldl.symm

end

section
variable {α : Type} [Zero α]

@[reducible] def tup (st : PState α) : Nat × List α × List (List α) := (st.part, st.acc, st.feature)

theorem foldl_zipIdx_packLoop (φ : Nat × List α × List (List α) → α × Nat → Nat × List α × List (List α))
    (hφ : ∀ st x k, φ (tup st) (x, k) = tup (packStep st k x)) (v : List α) (k : Nat) (st : PState α) :
    foldl φ (tup st) (v.zipIdx k) = tup (packLoop v k st) := by
  induction v generalizing k st with
  | nil => rfl
  | cons x v ih => rw [zipIdx_cons, foldl_cons, hφ, ih, packLoop]

end

-- `[LinearOrder α]` is unused by `foldl_index_zip` / `tie_from_vec`; their statements are fixed with it, hence the linter option
set_option linter.unusedSectionVars false
variable {α : Type} [Field α] [LinearOrder α]

/-- an index loop over the common prefix of two lists, accumulating `g l₁[i] l₂[i]`, is the sum over the zipped lists -/
theorem foldl_index_zip {β γ : Type} [Inhabited β] [Inhabited γ] (g : β → γ → α) (l1 : List β) (l2 : List γ) (a : α) :
    foldl (fun acc i => acc + g l1[i]! l2[i]!) a (range' 0 (Nat.min l1.length l2.length - 0)) =
      a + lsum ((l1.zip l2).map (fun p => g p.1 p.2)) := by
  induction l1 generalizing l2 a with
  | nil => exact (add_zero a).symm
  | cons x l1 ih =>
    cases l2 with
    | nil => exact (add_zero a).symm
    | cons y l2 =>
      -- peel off index 0 and shift the others: `(x :: l1)[i + 1]!` is `l1[i]!`
      have hmin : Nat.min (l1.length + 1) (l2.length + 1) = Nat.min l1.length l2.length + 1 := Nat.succ_min_succ _ _
      rw [length_cons, length_cons, hmin, Nat.sub_zero, range'_succ, foldl_cons, range'_succ_left, foldl_map]
      simp only [getElem!_cons_succ]
      rw [← Nat.sub_zero (Nat.min _ _), ih]
      exact add_assoc _ _ _

theorem tie_euclidean (sqrt : α → α) (f1 f2 : List (List α)) :
    Gen.K.euclidean sqrt f1 f2 = sqrt (sqEuclid f1 f2) := by
  unfold Gen.K.euclidean sqEuclid
  simp only [blockSq_eq]
  rw [foldl_index_zip (fun b1 b2 => blockSq b1 b2) f1 f2 0, zero_add]

theorem tie_cosine (sqrt : α → α) (f1 f2 : List (List α)) :
    Gen.K.cosine sqrt f1 f2 =
      dot f1 f2 / sqrt (sqNorm f1 (Nat.min f1.length f2.length) * sqNorm f2 (Nat.min f1.length f2.length)) := by
  unfold Gen.K.cosine dot sqNorm
  simp only [blockDot_eq]
  rw [foldl_index_zip (fun b1 b2 => blockDot b1 b2) f1 f2 0, zero_add, foldl_add_eq, foldl_add_eq, zero_add, zero_add]

/-- **`Feature::from_vec(&Vec<f32>)` = `pack`** (blocks of `FEATURE_LANES_SIZE` lanes, the last one zero padded) -/
theorem tie_from_vec (v : List α) : Gen.K.from_vec lanes v = pack v := by
  unfold Gen.K.from_vec
  dsimp only
  rw [foldl_zipIdx_packLoop _ _ v 0 ⟨[], replicate lanes 0, 0⟩]
  · simp only [decide_eq_true_eq]; rfl
  · intro st x k
    simp only [packStep, decide_eq_true_eq]
    by_cases h : k % lanes = lanes - 1
    · rw [if_pos h, if_pos h]; rfl
    · rw [if_neg h, if_neg h]; rfl

end SimVerif.Tie
