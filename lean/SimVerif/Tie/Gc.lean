import SimVerif.Gen.LGc
import SimVerif.Lemmas.Tracker
import SimVerif.Tie.Epoch
/-!
# Tie (DESIGN.md 14.14): expiry collection — the default methods of `TrackerAPI`

`Gen/LGc.lean` is regenerated on every run from `trackers/tracker_api.rs`: `get_main_store_wasted`, `auto_waste`, `wasted`,
`skip_epochs_for_scene`. The two stores are state variables, the store operations (`find_usable`, `fetch_tracks`, `add_track`)
and the epoch update are parameters; `expect` on a failing `add_track` is the value `none`, which the stand-in used here never
produces.

Here the parameters are the list store of `Model/Tracker.lean` — the generated `epochs : E` is the whole `St`; `find_usable`
reports `Wasted` exactly for the tracks `expired` says (`findUsableM_baked`: what the generated `EpochDb::baked` answers, by
`tie_epoch_baked`); `fetch_tracks` is a list stand-in of its own, not the sharded `Store.fetchTracks` of `Tie/StoreMap.lean`;
`add_track` is the stand-in `addTrackG`, which appends and never refuses, where the source's store refuses an id it already
holds (no hypothesis here says that live and wasted ids are disjoint) — and on these the generated functions **are** the model's
`collect`, `wastedOp` and `skip`, the functions the theorems of C03 are about; the `some` of the three ties is owed to that
stand-in.
`tie_gc_skip` takes the model's `setEpoch` for the epoch update, not the generated `epoch_skip`: the source writes the epoch map
in place where `setEpoch` filters and re-appends; the maps agree on every lookup (`tie_epoch_skip`) but are not equal, and
nothing here carries `expired` across that, so the two ties do not compose.
-/
namespace SimVerif.Tie
open SimVerif.Tracker SimVerif.Gen.L

/-- `find_usable` on the model store: every track with its baked status (`Tie/Epoch.lean`: `Wasted` iff `expired`) -/
def findUsableM (cfg : Cfg) (st : St) (l : List Trk) : List (Nat × Status) :=
  l.map (fun t => (t.id, if expired cfg st t then Status.wasted else Status.pending))

/-- `fetch_tracks`: the tracks with these ids leave the store and are returned in the order of the ids -/
def fetchTracksM (l : List Trk) (ids : List Nat) : List Trk × List Trk :=
  (l.filter (fun t => !ids.contains t.id), ids.filterMap (fun i => l.find? (fun t => t.id == i)))

/-- `add_track` of a track with a new id appends (`addTrackM` of `Tie/ApplyModel.lean` is the same operation on a whole `St`, for the apply loop's candidates) -/
def addTrackG (l : List Trk) (t : Trk) : Option (List Trk) := some (l ++ [t])

theorem findUsableM_baked (cfg : Cfg) (st : St) (l : List Trk) :
    findUsableM cfg st l = l.map fun t => (t.id, epoch_baked (some st.epochs) cfg.maxIdle t.scene t.lastUpd) := by
  simp only [findUsableM, tie_epoch_baked]

/- `pr`, `isW`: the generated projection and test, `match`es on the pair -/
theorem findUsableM_wasted (pr : Nat × Status → Nat) (isW : Nat × Status → Bool) (hpr : ∀ i s, pr (i, s) = i)
    (hw : ∀ i s, isW (i, s) = (match s with | Status.wasted => true | _ => false)) (cfg : Cfg) (st : St) (l : List Trk) :
    List.map pr (List.filter isW (findUsableM cfg st l)) = (l.filter (expired cfg st)).map (·.id) := by
  simp only [findUsableM, List.filter_map, List.map_map, Function.comp_def, hpr, hw]
  congr 2
  funext t
  cases expired cfg st t <;> rfl

theorem fetchTracksM_filter (q : Trk → Bool) (l : List Trk) (hnd : (l.map (·.id)).Nodup) :
    fetchTracksM l ((l.filter q).map (·.id)) = (l.filter (fun t => !q t), l.filter q) := by
  unfold fetchTracksM
  congr 1
  · refine List.filter_congr fun t ht => ?_
    have hmem : t.id ∈ (l.filter q).map (·.id) ↔ q t = true := by
      constructor
      · intro h
        obtain ⟨u, hu, hid⟩ := List.mem_map.mp h
        exact ListFacts.nodup_map_inj hnd (List.mem_filter.mp hu).1 ht hid ▸ (List.mem_filter.mp hu).2
      · exact fun h => List.mem_map.mpr ⟨t, List.mem_filter.mpr ⟨ht, h⟩, rfl⟩
    simp only [List.contains_eq_mem, hmem, Bool.decide_eq_true]
  · rw [List.filterMap_map]
    exact (ListFacts.filterMap_congr fun t ht => find_of_mem_nodup l hnd t (List.mem_filter.mp ht).1).trans List.filterMap_some

theorem tie_gc_main_store_wasted (cfg : Cfg) (st : St) (l : List Trk) (hnd : (l.map (·.id)).Nodup) :
    gc_main_store_wasted (findUsableM cfg) fetchTracksM addTrackG st l =
      (l.filter (fun t => !expired cfg st t), l.filter (expired cfg st)) := by
  unfold gc_main_store_wasted
  simp only []
  rw [findUsableM_wasted _ _ (fun _ _ => rfl) (fun _ s => by cases s <;> rfl) cfg st l]
  exact fetchTracksM_filter (expired cfg st) l hnd

theorem tie_gc_auto_waste (cfg : Cfg) (st : St) (hnd : (st.live.map (·.id)).Nodup) :
    gc_auto_waste (findUsableM cfg) fetchTracksM addTrackG st st.live st.wasted =
      some ((collect cfg st).live, (collect cfg st).wasted) := by
  unfold gc_auto_waste
  rw [tie_gc_main_store_wasted cfg st st.live hnd]
  simp only []
  rw [ListFacts.foldl_some_append _ (fun _ _ => rfl)]
  rfl

/-- `hexp`: the tracks in the wasted store are expired — they were when they were moved, and epochs only grow; a hypothesis
here, which no theorem of the development establishes or preserves -/
theorem tie_gc_wasted (cfg : Cfg) (st : St) (hnd : (st.live.map (·.id)).Nodup)
    (hndw : (((collect cfg st).wasted).map (·.id)).Nodup) (hexp : ∀ t ∈ (collect cfg st).wasted, expired cfg st t = true) :
    gc_wasted (findUsableM cfg) fetchTracksM addTrackG st st.live st.wasted =
      some (((wastedOp cfg st).1.live, (wastedOp cfg st).1.wasted), (wastedOp cfg st).2) := by
  unfold gc_wasted
  rw [tie_gc_auto_waste cfg st hnd]
  simp only []
  rw [findUsableM_wasted _ _ (fun _ _ => rfl) (fun _ s => by cases s <;> rfl) cfg st (collect cfg st).wasted]
  rw [fetchTracksM_filter (expired cfg st) (collect cfg st).wasted hndw]
  rw [List.filter_eq_self.mpr hexp, List.filter_eq_nil_iff.mpr fun t ht => by simp [hexp t ht]]
  rfl

theorem tie_gc_skip (cfg : Cfg) (st : St) (scene n : Nat) (hnd : (st.live.map (·.id)).Nodup) :
    gc_skip_epochs_for_scene (findUsableM cfg) fetchTracksM addTrackG (fun s sc k => setEpoch s sc (epochOf s sc + k)) st st.live st.wasted scene n =
      some (setEpoch st scene (epochOf st scene + n), (skip cfg st scene n).live, (skip cfg st scene n).wasted) := by
  unfold gc_skip_epochs_for_scene
  have := tie_gc_auto_waste cfg (setEpoch st scene (epochOf st scene + n)) (by simpa [setEpoch] using hnd)
  simp only [setEpoch] at this ⊢
  rw [this]
  rfl

/-- the model's `collect` on a store with one expired and one fresh track -/
example :
    let cfg : Cfg := { maxIdle := 1, histLen := 1, batchIds := false, thr := 0 }
    let st : St := { epochs := [(0, 5)], live := [Trk.simple 1 0 2 1 none [], Trk.simple 2 0 5 1 none []] }
    ((collect cfg st).live.map (·.id), (collect cfg st).wasted.map (·.id)) = ([2], [1]) := by decide

end SimVerif.Tie
