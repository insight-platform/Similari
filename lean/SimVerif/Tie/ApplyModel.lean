import SimVerif.Tie.Apply
import SimVerif.Tie.Attr
import SimVerif.Tie.Map
import SimVerif.Lemmas.Tracker
/-!
# Tie (DESIGN.md 14.13): the apply loops, on the model's list store, are `applyPicks`

`Tie/Apply.lean` proves the generated loops equal to folds of `stepI` / `stepB` / `stepV`, for arbitrary store operations. Here
the store operations are instantiated with the list store of `Model/Tracker.lean` — `freshTrk`, `contTrk`, `recOfM` …: what the
tracker model says `add_track`, `merge_external` and the read-back do to a track, written to agree with `applyPick`
(`contTrk_eq_updTrk` …) — and each loop is proved equal to `applyPicks`, the function the C01–C03 theorems are stated about,
run on the picks the winners table denotes (`picksOfW`: the winner if it is another track, else a new track under the next
counter value), for every winners table, candidate list and store whose ids do not exceed the counter. The three ties are
instances of `runG_applyPicks_from`: a fold whose iteration does what `applyPick` does for the pick listed for the candidate
(`StepSim`) is `applyPicks`, whatever the configuration; no instance is stated for BatchVisualSort's voting thread (`stepBV`).

So the control flow of the real loop — order of detections, when an id is drawn, which id a new track gets, that the record is
read back from the stored track after the operation — is the model's, by proof; what the store operations do to a track is tied
separately (`Tie/StoreMap`, `Tie/StoreCmd`, `Tie/Track`, `Tie/Attr`, `Tie/Optimize`, `Tie/Record`). `SortTrack::from` is
instantiated with the hand-written `recOfM` / `recOfV` (`recOfT` on a stored track): no theorem relates `recOfT` to the generated
`sort_track_of` / `visual_track_of` of `Tie/Record.lean`, and for VisualSORT `recOfT` reports the track's `visual` field where
`visual_track_of` reports `voting_type.getD false`.
-/
namespace SimVerif.Tie
open SimVerif.Tracker SimVerif.Gen.L

/-- a candidate track: the random id it was built with, and the detection -/
abbrev Cand := Nat × Det

/-- what `add_track` stores for a detection (positional trackers) -/
def freshTrk (scene e id : Nat) (d : Det) : Trk :=
  { id := id, scene := scene, lastUpd := e, len := 1, custom := d.custom, obsH := [d.tok], visual := false,
    gallery := [], vcount := featCount [], featH := [] }

/-- the track after a detection was merged into it (positional trackers) -/
def contTrk (cfg : Cfg) (e : Nat) (t : Trk) (d : Det) : Trk :=
  { t with lastUpd := e, len := t.len + 1, custom := d.custom, obsH := pushBounded t.obsH d.tok cfg.histLen, visual := false,
           gallery := t.gallery, vcount := t.vcount, vt := t.vt, featH := t.featH }

/-- the generated loop has one type for candidates and stored tracks (`Track`): here a candidate (left) or a stored model track (right) -/
abbrev TT := Cand ⊕ Trk

def trackIdM : TT → Nat := Sum.elim (fun c => c.1) (fun t => t.id)
def setTrackIdM (x : TT) (i : Nat) : TT := match x with | .inl c => .inl (i, c.2) | .inr t => .inr { t with id := i }

def addTrackM (scene e : Nat) (st : St) (x : TT) : Option St :=
  match x with
  | .inl c => some { st with live := st.live ++ [freshTrk scene e c.1 c.2] }
  | .inr t => some { st with live := st.live ++ [t] }

def mergeExternalM (cfg : Cfg) (e : Nat) (st : St) (dest : Nat) (x : TT) : Option St :=
  match x with
  | .inl c => (findLive st dest).map fun t => { st with live := st.live.map (fun x => if x.id == dest then contTrk cfg e t c.2 else x) }
  | .inr _ => none

def shardOfM (st : St) (_ : Nat) : List (Nat × TT) := st.live.map (fun t => (t.id, Sum.inr t))

/-- `SortTrack::from(track)` on the model track: every field is the attribute it names, the observed box is the last of the history -/
def recOfT (t : Trk) : Rec :=
  { id := t.id, epoch := t.lastUpd, scene := t.scene, len := t.len, custom := t.custom, tok := t.obsH.getLast?.getD 0, visual := t.visual }
def recOfM : TT → Rec
  | .inr t => recOfT t
  | .inl c => { id := c.1, epoch := 0, scene := 0, len := 0, custom := c.2.custom, tok := c.2.tok, visual := false }

/-- the picks a winners table denotes, in submission order; a new track takes the next counter value -/
def picksOfW (winners : List (Nat × List Nat)) : List Cand → Nat → List Pick
  | [], _ => []
  | c :: cs, ctr =>
    match pickOf winners c.1 with
    | some d => Pick.cont d false :: picksOfW winners cs ctr
    | none => Pick.fresh (ctr + 1) :: picksOfW winners cs (ctr + 1)

/-- the loop keeps the id counter beside the store and never writes the store's own `nextId` field: as a model state, the
pair is the store with the counter for `nextId` -/
def withCtr (db : St) (n : Nat) : St := { db with nextId := n }

theorem withCtr_self (q : St) (m : Nat) : withCtr (withCtr q m) q.nextId = q := rfl

/-- one iteration of `step`, on candidate `c` at counter `n` and store `db`, does what `applyPick` does on `withCtr db n` for the
pick that `picks` lists for `c` (a new track gets the next counter value), the counter afterwards being the model's `nextId`,
from which `picks` goes on -/
def StepSim {X : Type} (cfg : Cfg) (scene e : Nat) (step : RunSt St Rec → X → Option (RunSt St Rec)) (inj : Cand → X)
    (picks : List Cand → Nat → List Pick) : Prop :=
  ∀ c cs db n res ids, (∀ t ∈ db.live, t.id ≤ n) → ∃ p, (∀ k, p = .fresh k → k = n + 1) ∧
    picks (c :: cs) n = p :: picks cs (n + if cfg.batchIds then 1 else freshCount p) ∧
    (step ((n, db, res), ids) (inj c)).map (·.1) =
      (applyPick cfg scene e (withCtr db n) c.2 p).map (fun q => (q.1.nextId, withCtr q.1 db.nextId, res ++ [q.2]))

/-- On the list store, `merge_external` into track `d` and the read-back of `d` are `applyPick`'s continuation of `d`: the same
store, and the record read back is the one `applyPick` returns (`inr`, `recOf`: how the loop's track type holds a stored track) -/
theorem merge_readBack {X : Type} (inr : Trk → X) (recOf : X → Rec) (hrec : ∀ t, recOf (inr t) = recOfT t) (cfg : Cfg)
    (scene e : Nat) (db : St) (n d : Nat) (det : Det) (vis : Bool) (res : List Rec) (ids : List (Nat × Bool)) :
    ((((findLive db d).map fun t =>
          { db with live := db.live.map fun x => if x.id == d then C03.updTrk cfg e det vis t else x }).bind fun db' =>
        (mapGet (db'.live.map fun u => (u.id, inr u)) d).map fun tr =>
          ((n + (if cfg.batchIds then 1 else 0), db', res ++ [recOf tr]), ids)).map (·.1)) =
      (applyPick cfg scene e (withCtr db n) det (.cont d vis)).map fun q => (q.1.nextId, withCtr q.1 db.nextId, res ++ [q.2]) := by
  cases hf : findLive db d with
  | none => rw [applyPick_cont_none cfg scene e (withCtr db n) det d vis hf]; rfl
  | some t =>
    have hlast : (pushBounded t.obsH det.tok cfg.histLen).getLast? = some det.tok := pushB_getLast _ _ _
    rw [applyPick_cont_eq cfg scene e (withCtr db n) det d vis t hf]
    simp only [Option.map_some, Option.bind_some]
    rw [mapGet_map_key_val (fun u : Trk => u.id), find_replaced db.live d t (C03.updTrk cfg e det vis t) rfl hf, Option.map_some,
      Option.map_some, hrec]
    -- the record read back is the one returned: its `tok` is the last entry of the pushed history, its `id` is `d`
    simp [recOfT, C03.updTrk, hlast, findLive_id db d t hf, withCtr]

/-- … and `add_track` under the next counter value, above every stored id, with the read-back is `applyPick`'s new track -/
theorem add_readBack {X : Type} (inr : Trk → X) (recOf : X → Rec) (hrec : ∀ t, recOf (inr t) = recOfT t) (cfg : Cfg)
    (scene e : Nat) (db : St) (n : Nat) (hle : ∀ t ∈ db.live, t.id ≤ n) (det : Det) (res : List Rec) (ids : List (Nat × Bool)) :
    ((mapGet ((db.live ++ [C03.newTrk cfg scene e det (n + 1)]).map fun u => (u.id, inr u)) (n + 1)).map fun tr =>
        ((n + 1, { db with live := db.live ++ [C03.newTrk cfg scene e det (n + 1)] }, res ++ [recOf tr]), ids)).map (·.1) =
      (applyPick cfg scene e (withCtr db n) det (.fresh (n + 1))).map fun q => (q.1.nextId, withCtr q.1 db.nextId, res ++ [q.2]) := by
  rw [applyPick_fresh_eq, mapGet_map_key_val (fun u : Trk => u.id),
    find_appended db.live (n + 1) _ rfl (fun u hu => Nat.lt_succ_of_le (hle u hu)), Option.map_some, Option.map_some, hrec]
  rfl

/-- **a fold (`runG`) of such a step is `applyPicks` on those picks**: same store, same counter, same records in the same order -/
theorem runG_applyPicks_from {X : Type} {cfg : Cfg} {scene e : Nat} {step : RunSt St Rec → X → Option (RunSt St Rec)} {inj : Cand → X}
    {picks : List Cand → Nat → List Pick} (hnil : ∀ n, picks [] n = []) (hstep : StepSim cfg scene e step inj picks)
    (cands : List Cand) : ∀ db n res ids, (∀ t ∈ db.live, t.id ≤ n) →
    (runG step (cands.map inj) ((n, db, res), ids)).map (fun r => (withCtr r.1.2.1 r.1.1, r.1.2.2)) =
      (applyPicks cfg scene e (cands.map (·.2)) (picks cands n) (withCtr db n)).map (fun p => (p.1, res ++ p.2)) := by
  induction cands with
  | nil => intro db n res ids _; simp [runG, applyPicks, hnil]
  | cons c cs ih =>
    intro db n res ids hle
    obtain ⟨p, hk, hp, hs⟩ := hstep c cs db n res ids hle
    rw [hp]
    simp only [List.map_cons, runG, applyPicks]
    cases hst : step ((n, db, res), ids) (inj c) with
    | none =>
      rw [hst] at hs
      rw [Option.map_eq_none_iff.mp hs.symm]
      rfl
    | some r =>
      rw [hst] at hs
      obtain ⟨⟨s1, r1⟩, hq, hr⟩ := Option.map_eq_some_iff.mp hs.symm
      obtain ⟨_, rids⟩ := r
      cases hr
      have hle' := applyPick_ids_le hq hle (fun k hk' => hk k hk')
      have hn : s1.nextId = n + if cfg.batchIds then 1 else freshCount p := applyPick_nextId cfg scene e _ s1 c.2 p r1 hq
      have := ih (withCtr s1 db.nextId) s1.nextId (res ++ [r1]) rids hle'
      rw [withCtr_self] at this
      rw [hq, Option.bind_some, ← hn, this]
      dsimp only
      cases applyPicks cfg scene e (cs.map (·.2)) (picks cs s1.nextId) s1 <;> simp

theorem runG_eq_applyPicks {X : Type} {cfg : Cfg} {scene e : Nat} {step : RunSt St Rec → X → Option (RunSt St Rec)} {inj : Cand → X}
    {picks : List Cand → Nat → List Pick} (hnil : ∀ n, picks [] n = []) (hstep : StepSim cfg scene e step inj picks)
    (cands : List Cand) (st : St) (hle : ∀ t ∈ st.live, t.id ≤ st.nextId) :
    ((runG step (cands.map inj) ((st.nextId, st, []), [])).map (·.1)).map (fun r => (({ r.2.1 with nextId := r.1 } : St), r.2.2)) =
      applyPicks cfg scene e (cands.map (·.2)) (picks cands st.nextId) st := by
  rw [Option.map_map]
  refine (runG_applyPicks_from hnil hstep cands st st.nextId [] [] hle).trans ?_
  simp only [List.nil_append]
  exact Option.map_id'

theorem contTrk_eq_updTrk (cfg : Cfg) (hv : cfg.visual = false) (e : Nat) (t : Trk) (d : Det) :
    contTrk cfg e t d = C03.updTrk cfg e d false t := by simp [contTrk, C03.updTrk, hv]

theorem freshTrk_eq_newTrk (cfg : Cfg) (hv : cfg.visual = false) (scene e k : Nat) (d : Det) :
    freshTrk scene e k d = C03.newTrk cfg scene e d k := by simp [freshTrk, C03.newTrk, hv]

theorem stepI_sim (cfg : Cfg) (hb : cfg.batchIds = false) (hv : cfg.visual = false) (scene e : Nat) (winners : List (Nat × List Nat)) :
    StepSim cfg scene e (stepI (T := TT) (DB := St) (R := Rec) trackIdM setTrackIdM (addTrackM scene e) (mergeExternalM cfg e) shardOfM recOfM winners)
      Sum.inl (picksOfW winners) := by
  intro c cs db n res ids hle
  cases hp : pickOf winners c.1 with
  | some d =>
    refine ⟨.cont d false, (fun _ hk => nomatch hk), by simp [picksOfW, hp, hb, freshCount], ?_⟩
    simp only [stepI, trackIdM, Sum.elim_inl, hp, mergeExternalM, shardOfM, contTrk_eq_updTrk cfg hv]
    have h := merge_readBack Sum.inr recOfM (fun _ => rfl) cfg scene e db n d c.2 false res (ids ++ [(d, false)])
    rwa [hb] at h
  | none =>
    refine ⟨.fresh (n + 1), fun _ hk => (Pick.fresh.inj hk).symm, by simp [picksOfW, hp, hb, freshCount], ?_⟩
    simp only [stepI, trackIdM, Sum.elim_inl, hp, setTrackIdM, addTrackM, Option.bind_some, shardOfM, freshTrk_eq_newTrk cfg hv]
    exact add_readBack Sum.inr recOfM (fun _ => rfl) cfg scene e db n hle c.2 res _

/-- **`Sort::predict_with_scene`'s apply loop, on the model store, is `applyPicks`** on the picks the winners denote -/
theorem tie_apply_model (cfg : Cfg) (hb : cfg.batchIds = false) (hv : cfg.visual = false) (scene e : Nat)
    (winners : List (Nat × List Nat)) (cands : List Cand) (st : St) (hle : ∀ t ∈ st.live, t.id ≤ st.nextId) :
    (sort_apply_winners (T := TT) (DB := St) (R := Rec) trackIdM setTrackIdM (addTrackM scene e) (mergeExternalM cfg e)
        shardOfM recOfM winners (cands.map Sum.inl) st.nextId st).map (fun r => (({ r.2.1 with nextId := r.1 } : St), r.2.2)) =
      applyPicks cfg scene e (cands.map (·.2)) (picksOfW winners cands st.nextId) st := by
  rw [tie_sort_apply_winners]
  exact runG_eq_applyPicks (fun _ => rfl) (stepI_sim cfg hb hv scene e winners) cands st hle

/-- as `picksOfW`, the counter advancing for a continued track too: BatchSort draws an id per candidate -/
def picksOfWB (winners : List (Nat × List Nat)) : List Cand → Nat → List Pick
  | [], _ => []
  | c :: cs, ctr =>
    match pickOf winners c.1 with
    | some d => Pick.cont d false :: picksOfWB winners cs (ctr + 1)
    | none => Pick.fresh (ctr + 1) :: picksOfWB winners cs (ctr + 1)

theorem stepB_sim (cfg : Cfg) (hb : cfg.batchIds = true) (hv : cfg.visual = false) (scene e : Nat) (winners : List (Nat × List Nat)) :
    StepSim cfg scene e (stepB (T := TT) (DB := St) (R := Rec) trackIdM setTrackIdM (addTrackM scene e) (mergeExternalM cfg e) shardOfM recOfM winners)
      Sum.inl (picksOfWB winners) := by
  intro c cs db n res ids hle
  cases hp : pickOf winners c.1 with
  | some d =>
    refine ⟨.cont d false, (fun _ hk => nomatch hk), by simp [picksOfWB, hp, hb], ?_⟩
    simp only [stepB, trackIdM, Sum.elim_inl, hp, mergeExternalM, shardOfM, contTrk_eq_updTrk cfg hv]
    have h := merge_readBack Sum.inr recOfM (fun _ => rfl) cfg scene e db n d c.2 false res (ids ++ [(d, false)])
    rwa [hb] at h
  | none =>
    refine ⟨.fresh (n + 1), fun _ hk => (Pick.fresh.inj hk).symm, by simp [picksOfWB, hp, hb], ?_⟩
    simp only [stepB, trackIdM, Sum.elim_inl, hp, setTrackIdM, addTrackM, Option.bind_some, shardOfM, freshTrk_eq_newTrk cfg hv]
    exact add_readBack Sum.inr recOfM (fun _ => rfl) cfg scene e db n hle c.2 res _

theorem tie_apply_model_batch (cfg : Cfg) (hb : cfg.batchIds = true) (hv : cfg.visual = false) (scene e : Nat)
    (winners : List (Nat × List Nat)) (cands : List Cand) (st : St) (hle : ∀ t ∈ st.live, t.id ≤ st.nextId) :
    (batch_sort_apply_winners (T := TT) (DB := St) (R := Rec) trackIdM setTrackIdM (addTrackM scene e) (mergeExternalM cfg e)
        shardOfM recOfM winners (cands.map Sum.inl) st.nextId st).map (fun r => (({ r.2.1 with nextId := r.1 } : St), r.2.2)) =
      applyPicks cfg scene e (cands.map (·.2)) (picksOfWB winners cands st.nextId) st := by
  rw [tie_batch_sort_apply_winners]
  exact runG_eq_applyPicks (fun _ => rfl) (stepB_sim cfg hb hv scene e winners) cands st hle

/-- non-vacuity: one live track (id 1), two detections — the first continues it (winner `[1]`), the second has no winner and
starts track 2 -/
example :
    let cfg : Cfg := { maxIdle := 3, histLen := 2, batchIds := false, thr := 0 }
    let st : St := { live := [Trk.simple 1 0 4 1 none [7]], nextId := 1 }
    (applyPicks cfg 0 5 [Det.simple 8 none, Det.simple 9 none] (picksOfW [(100, [1])] [(100, Det.simple 8 none), (101, Det.simple 9 none)] 1) st).map
      (fun p => (p.1.nextId, p.1.live.map (·.id), p.2.map (fun r => (r.id, r.len, r.tok)))) =
    some (2, [1, 2], [(1, 2, 8), (2, 1, 9)]) := by decide

/-- a VisualSORT candidate also carries the voting type written into it before the merge -/
abbrev TTV := (Cand × Option Bool) ⊕ Trk

def trackIdV : TTV → Nat := Sum.elim (fun c => c.1.1) (fun t => t.id)
def setTrackIdV (x : TTV) (i : Nat) : TTV := match x with | .inl c => .inl ((i, c.1.2), c.2) | .inr t => .inr { t with id := i }
def addVotingObsV (x : TTV) (vt : Option Bool) : Option TTV := match x with | .inl c => some (.inl (c.1, vt)) | .inr t => some (.inr t)

/-- the track a detection starts (VisualSORT): its gallery holds the detection's observation -/
def freshTrkV (scene e id : Nat) (d : Det) : Trk :=
  { id := id, scene := scene, lastUpd := e, len := 1, custom := d.custom, obsH := [d.tok], visual := false,
    gallery := [{ quality := d.quality, feat := d.feat, box := true }],
    vcount := featCount [{ quality := d.quality, feat := d.feat, box := true }], featH := [d.feat] }

/-- the track after a detection was merged into it with voting type `vis` (VisualSORT) -/
def contTrkV (cfg : Cfg) (e : Nat) (t : Trk) (d : Det) (vis : Bool) : Trk :=
  { t with lastUpd := e, len := t.len + 1, custom := d.custom, obsH := pushBounded t.obsH d.tok cfg.histLen, visual := vis,
           gallery := galleryUpdate cfg.maxObs t.gallery { quality := d.quality, feat := if d.collectOk then d.feat else 0, box := true },
           vcount := featCount (galleryUpdate cfg.maxObs t.gallery { quality := d.quality, feat := if d.collectOk then d.feat else 0, box := true }),
           vt := some vis, featH := pushBounded t.featH d.feat cfg.histLen }

def addTrackV (scene e : Nat) (st : St) (x : TTV) : Option St :=
  match x with
  | .inl c => some { st with live := st.live ++ [freshTrkV scene e c.1.1 c.1.2] }
  | .inr t => some { st with live := st.live ++ [t] }

def mergeExternalV (cfg : Cfg) (e : Nat) (st : St) (dest : Nat) (x : TTV) : Option St :=
  match x with
  | .inl c => (findLive st dest).map fun t =>
      { st with live := st.live.map (fun x => if x.id == dest then contTrkV cfg e t c.1.2 (c.2.getD false) else x) }
  | .inr _ => none

def shardOfV (st : St) (_ : Nat) : List (Nat × TTV) := st.live.map (fun t => (t.id, Sum.inr t))
def recOfV : TTV → Rec
  | .inr t => recOfT t
  | .inl c => { id := c.1.1, epoch := 0, scene := 0, len := 0, custom := c.1.2.custom, tok := c.1.2.tok, visual := false }

def picksOfWV (winners : List (Nat × List (Nat × Bool))) : List Cand → Nat → List Pick
  | [], _ => []
  | c :: cs, ctr =>
    match pickOfV winners c.1 with
    | some (d, vis) => Pick.cont d vis :: picksOfWV winners cs ctr
    | none => Pick.fresh (ctr + 1) :: picksOfWV winners cs (ctr + 1)

theorem contTrkV_eq_updTrk (cfg : Cfg) (hv : cfg.visual = true) (e : Nat) (t : Trk) (d : Det) (vis : Bool) :
    contTrkV cfg e t d vis = C03.updTrk cfg e d vis t := by simp [contTrkV, C03.updTrk, hv]

theorem freshTrkV_eq_newTrk (cfg : Cfg) (hv : cfg.visual = true) (scene e k : Nat) (d : Det) :
    freshTrkV scene e k d = C03.newTrk cfg scene e d k := by simp [freshTrkV, C03.newTrk, hv]

theorem stepV_sim (cfg : Cfg) (hb : cfg.batchIds = false) (hv : cfg.visual = true) (scene e : Nat) (winners : List (Nat × List (Nat × Bool))) :
    StepSim cfg scene e (stepV (T := TTV) (DB := St) (R := Rec) (V := Bool) trackIdV setTrackIdV id addVotingObsV (addTrackV scene e)
      (mergeExternalV cfg e) shardOfV recOfV winners) (fun c => Sum.inl (c, none)) (picksOfWV winners) := by
  intro c cs db n res ids hle
  cases hp : pickOfV winners c.1 with
  | some dv =>
    obtain ⟨d, vis⟩ := dv
    refine ⟨.cont d vis, (fun _ hk => nomatch hk), by simp [picksOfWV, hp, hb, freshCount], ?_⟩
    simp only [stepV, trackIdV, Sum.elim_inl, hp, addVotingObsV, Option.bind_some, mergeExternalV, Option.getD_some, shardOfV,
      contTrkV_eq_updTrk cfg hv]
    have h := merge_readBack Sum.inr recOfV (fun _ => rfl) cfg scene e db n d c.2 vis res (ids ++ [(d, false)])
    rwa [hb] at h
  | none =>
    refine ⟨.fresh (n + 1), fun _ hk => (Pick.fresh.inj hk).symm, by simp [picksOfWV, hp, hb, freshCount], ?_⟩
    simp only [stepV, trackIdV, Sum.elim_inl, hp, id, setTrackIdV, addTrackV, Option.bind_some, shardOfV, freshTrkV_eq_newTrk cfg hv]
    exact add_readBack Sum.inr recOfV (fun _ => rfl) cfg scene e db n hle c.2 res _

theorem tie_apply_model_visual (cfg : Cfg) (hb : cfg.batchIds = false) (hv : cfg.visual = true) (scene e : Nat)
    (winners : List (Nat × List (Nat × Bool))) (cands : List Cand) (st : St) (hle : ∀ t ∈ st.live, t.id ≤ st.nextId) :
    (visual_apply_winners (T := TTV) (DB := St) (R := Rec) (V := Bool) trackIdV setTrackIdV id addVotingObsV (addTrackV scene e)
        (mergeExternalV cfg e) shardOfV recOfV winners (cands.map (fun c => Sum.inl (c, none))) st.nextId st).map
        (fun r => (({ r.2.1 with nextId := r.1 } : St), r.2.2)) =
      applyPicks cfg scene e (cands.map (·.2)) (picksOfWV winners cands st.nextId) st := by
  rw [tie_visual_apply_winners]
  exact runG_eq_applyPicks (fun _ => rfl) (stepV_sim cfg hb hv scene e winners) cands st hle

end SimVerif.Tie
