import SimVerif.Gen.LVisVoting
import SimVerif.Tie.Map
import SimVerif.Lemmas.List
/-!
# Tie: the VisualSORT cascade `VisualVoting::winners` (`Gen.L.visual_voting_winners`)

`BestFitVoting::winners` and `SortVoting::winners` are parameters (tied in `Tie/Voting.lean`, `Tie/SortVoting.lean`). The
source equals the specification `vvSpec`: appearance first, then the positional stage on exactly the distances whose
detection was not decided by appearance, whose track was not awarded by appearance and that carry a positional weight, with
the numbers of distinct remaining candidates and tracks. `w[0]!` is kept as the source has it: that the BestFit entries are
non-empty is not proved here.
-/
namespace SimVerif.Tie
open SimVerif.Gen.L SimVerif.Voting SimVerif.ListFacts

/-- what the appearance stage decides: for every query of the BestFit result its first entry's track, voting type Visual -/
def vvFeature (fw : List (Nat × List Elt)) : List (Nat × List (Nat × Bool)) := fw.map (fun p => (p.1, [((p.2[0]!).w, true)]))
def vvExcluded (fw : List (Nat × List Elt)) : List Nat := fw.foldl (fun s p => setInsert s (p.2[0]!).w) []
def vvRemaining (fw : List (Nat × List Elt)) (ds : List VD) : List VD :=
  ds.filter (fun e => !((mapGet (vvFeature fw) e.frm).isSome || (vvExcluded fw).contains e.to) && e.attr.isSome)

def vvSpec (bestfitFn : Rat → Nat → List VD → List (Nat × List Elt)) (sortVotingFn : Rat × Nat × Nat → List VD → List (Nat × List Nat))
    (thr maxF : Rat) (mv : Nat) (ds : List VD) : List (Nat × List (Nat × Bool)) :=
  let fw := bestfitFn maxF mv ds
  let rem := vvRemaining fw ds
  let nc := (rem.foldl (fun s e => setInsert s e.frm) []).length
  let nt := (rem.foldl (fun s e => setInsert s e.to) []).length
  mapExtend (vvFeature fw) ((sortVotingFn (thr, nc, nt) rem).map (fun p => (p.1, [(p.2[0]!, false)])))

theorem mapGet_mapExtend_of_not_mem {β : Type} (l : List (Nat × β)) (m : List (Nat × β)) (q : Nat) (h : ∀ p ∈ l, p.1 ≠ q) :
    mapGet (mapExtend m l) q = mapGet m q := by
  unfold mapExtend
  induction l generalizing m with
  | nil => rfl
  | cons p rest ih =>
    rw [List.foldl_cons, ih _ (fun p' hp' => h p' (List.mem_cons_of_mem _ hp')), mapGet_mapSet,
      if_neg (fun hq => h p List.mem_cons_self hq.symm)]

theorem tie_visual_voting_winners (bestfitFn : Rat → Nat → List VD → List (Nat × List Elt)) (sortVotingFn : Rat × Nat × Nat → List VD → List (Nat × List Nat))
    (thr maxF : Rat) (mv : Nat) (ds : List VD) :
    visual_voting_winners bestfitFn sortVotingFn thr maxF mv ds = vvSpec bestfitFn sortVotingFn thr maxF mv ds := by
  unfold visual_voting_winners vvSpec
  simp only []
  rw [foldl_state_map (fun (s : List Nat) (p : Nat × List Elt) => setInsert s (p.2[0]!).w) (fun (p : Nat × List Elt) => (p.1, [((p.2[0]!).w, true)]))
    _ (fun _ _ => rfl)]
  rw [foldl_state_map (fun (s : List Nat × List Nat) (e : VD) => (setInsert s.1 e.frm, setInsert s.2 e.to)) (fun (e : VD) => e)
    _ (fun _ _ => rfl)]
  simp only [List.map_id']
  rw [foldl_prod (fun s (e : VD) => setInsert s e.frm) (fun s (e : VD) => setInsert s e.to)]
  rfl

end SimVerif.Tie
