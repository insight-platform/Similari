import SimVerif.Gen.LVoteParams
import SimVerif.Gen.Consts
/-!
# Tie (DESIGN.md 14.8, 14.15): the parameters the trackers hand to `SortVoting` and `VisualVoting`

`Gen/LVoteParams.lean` holds `SortVoting::new` (`trackers/sort/voting.rs`) and the statement
`let voting = SortVoting::new(..)` of `Sort::predict_with_scene`. C02 says an unmatched detection counts as *the threshold
weight*: the threshold the assignment matrix is built with (`Tie/SortVoting.lean`: `svMatrix … thr …`) is the configured IoU
threshold — or the fixed new-track threshold in Mahalanobis mode — scaled and quantised exactly like the weights; `track_num` is the
sum of the shard statistics; `candidate_num` is the number handed in (`n`, a variable, in `tie_sort_voting_params`: the
`let num_candidates = tracks.len()` of the source lies outside the picked statement; only `tie_batch_sort_voting_params` has
`tracks.length`).
`VisualSort::predict_with_scene` builds `VisualVoting` with the same threshold rule, `f32::MAX` as the bound on the feature
distance and the configured minimum votes; the batch trackers hand over what the simple ones do.
-/
namespace SimVerif.Tie
open SimVerif.Gen.L

def thrOf (mahaThr : Rat) : PosKind → Rat
  | .maha => mahaThr
  | .iou t => t

theorem tie_sort_voting_new (quant : Rat → Int) (mult thr : Rat) (n m : Nat) :
    sort_voting_new quant mult thr n m = { threshold := quant (thr * mult), candidate_num := n, track_num := m } := rfl

theorem tie_sort_voting_params (quant : Rat → Int) (mult mahaThr : Rat) (method : PosKind) (n : Nat) (stats : List Nat) :
    sort_voting_params quant mult mahaThr method n stats =
      { threshold := quant (thrOf mahaThr method * mult), candidate_num := n, track_num := stats.sum } := by
  cases method <;> rfl

/-- with the constants of the source: IoU mode uses the configured threshold, Mahalanobis mode the weight 1 -/
example (quant : Rat → Int) (n : Nat) (stats : List Nat) :
    (sort_voting_params quant Gen.F32_U64_MULT Gen.MAHALANOBIS_NEW_TRACK_THRESHOLD .maha n stats).threshold = quant (1 * 1000000) := rfl

/-- **VisualSORT's voting parameters** (simple and batch tracker alike): the positional threshold of the configured metric, **no
bound on the feature distance** (`f32::MAX`: the appearance stage filters by votes only — `Model/Tracker.lean` `visualDecided` uses
`F32_MAX` too), and the configured minimum number of votes -/
theorem tie_visual_voting_params (mahaThr f32max : Rat) (kind : PosKind) (minVotes : Nat) :
    visual_voting_params mahaThr f32max kind minVotes =
      { positional_threshold := thrOf mahaThr kind, max_allowed_feature_distance := f32max, min_winner_feature_votes := minVotes } := by
  cases kind <;> rfl

theorem tie_batch_visual_voting_params (mahaThr f32max : Rat) (kind : PosKind) (minVotes : Nat) :
    batch_visual_voting_params mahaThr f32max kind minVotes = visual_voting_params mahaThr f32max kind minVotes := rfl

theorem tie_batch_sort_voting_params {T : Type} (quant : Rat → Int) (mult mahaThr : Rat) (method : PosKind) (tracks : List T) (stats : List Nat) :
    batch_sort_voting_params quant mult mahaThr method tracks () stats =
      sort_voting_params quant mult mahaThr method tracks.length stats := by
  cases method <;> rfl

end SimVerif.Tie
