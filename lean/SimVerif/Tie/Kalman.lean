import SimVerif.Gen.KKalman
import SimVerif.Gen.Consts
import SimVerif.Model.Kalman
import Mathlib.Algebra.Order.Field.Basic
/-!
# Tie: generated Kalman kernels = hand-written model (DESIGN.md 14.8)

`calculate_cost` of the box and the point filter and the `std_position` / `std_velocity` vectors
(`SimVerif.Gen.K.*`, regenerated on every run) coincide with
`costDirect` / `costInverted` / `stdVec` of `SimVerif/Model/Kalman.lean` at the gate indices and the
constant-coordinate index that `translator/translate.py` reads into `Gen/Consts.lean`. The point filter's vectors are
stated as the list `[k·w, k·w]`: the model has no point noise vector to compare with.
-/
set_option linter.unusedSectionVars false
namespace SimVerif.Tie
open SimVerif.Kalman
variable {α : Type} [Field α] [LinearOrder α]

theorem tie_box_cost_direct (chi : Nat → α) (upper d : α) :
    Gen.K.box_cost chi upper d false = costDirect (chi Gen.boxCostGateDirect) upper d := by
  unfold Gen.K.box_cost costDirect Gen.boxCostGateDirect
  simp only [Bool.not_false, if_true, decide_eq_true_eq]

theorem tie_box_cost_inverted (chi : Nat → α) (upper d : α) :
    Gen.K.box_cost chi upper d true = costInverted (chi Gen.boxCostGateInverted) upper d := by
  unfold Gen.K.box_cost costInverted Gen.boxCostGateInverted
  simp only [Bool.not_true, Bool.false_eq_true, if_false, decide_eq_true_eq]

theorem tie_point_cost_direct (chi : Nat → α) (upper d : α) :
    Gen.K.point_cost chi upper d false = costDirect (chi Gen.pointCostGateDirect) upper d := by
  unfold Gen.K.point_cost costDirect Gen.pointCostGateDirect
  simp only [Bool.not_false, if_true, decide_eq_true_eq]

theorem tie_point_cost_inverted (chi : Nat → α) (upper d : α) :
    Gen.K.point_cost chi upper d true = costInverted (chi Gen.pointCostGateInverted) upper d := by
  unfold Gen.K.point_cost costInverted Gen.pointCostGateInverted
  simp only [Bool.not_true, Bool.false_eq_true, if_false, decide_eq_true_eq]

theorem tie_box_std_position (w k cnst h : α) :
    Gen.K.box_std_position w k cnst h = stdVec k w cnst h 5 Gen.stdConstIndex := by
  unfold Gen.K.box_std_position stdVec Gen.stdConstIndex
  simp [List.range, List.range.loop]

theorem tie_box_std_velocity (w k cnst h : α) :
    Gen.K.box_std_velocity w k cnst h = stdVec k w cnst h 5 Gen.stdConstIndex :=
  tie_box_std_position w k cnst h

/-- point filter `std_position(k, _)`: the constant `k·w` for both coordinates (no height scaling) -/
theorem tie_point_std_position (w k p : α) : Gen.K.point_std_position w k p = [k * w, k * w] := rfl

theorem tie_point_std_velocity (w k p : α) : Gen.K.point_std_velocity w k p = [k * w, k * w] := rfl

end SimVerif.Tie
