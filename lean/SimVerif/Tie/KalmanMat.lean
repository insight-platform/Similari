import SimVerif.Gen.KKalmanMat
import SimVerif.Gen.KKalmanVec
import SimVerif.Props.C07b
import Mathlib.Data.List.GetD
/-!
# Tie: the Kalman filters at matrix level

`Gen/KKalmanMat.lean` (regenerated on every run from `kalman_2d_box.rs` / `kalman_2d_point.rs`) holds the nalgebra expressions
of `new`, `initiate`, `predict`, `project`, `update`, `distance` as Mathlib matrices, the `2n` state indexed by positions ⊕
velocities in storage order. On a state `(toMean cs, toCov cs)` (the invariant of `C07_blockdiag_inv`) each of them is the
textbook step of `Props/C07b.lean`, hence `predict1` / `update1` / `dist1` / `init1` of `Model/Kalman.lean` in every coordinate,
with the noise vectors the source computes. Here: what holds for every number of coordinates (storage layout, `*_core`), the
matrices of `new`, `project` / `distance` / `initiate` of the two filters, the vector filter's maps; `predict` and `update` with
the matrices of `new` are `C07_source_*` in `Props/C07s.lean`. The ties end at the per-coordinate functions: the model's
list-level `boxInitiate` … `boxDistance` are compared with the implementation by the differential run only.

`solve_lower_triangular` and `cholesky().l()` of nalgebra are parameters with a contract on diagonal matrices
(`SolveLowerDiag`; the Cholesky factor of `diag(s)` is `diag(q)` with `q² = s`); that nalgebra meets it is checked by the
differential run.
-/
set_option linter.unusedSectionVars false
namespace SimVerif.Tie
open SimVerif.Kalman SimVerif.C07 SimVerif.Gen.K Matrix

variable {α : Type} [Field α] [LinearOrder α] {n : ℕ} [NeZero n]

/-- a column vector as an `ι × 1` matrix (nalgebra's `SVector`) -/
def col {ι : Type} (v : ι → α) : Matrix ι (Fin 1) α := fun i _ => v i

theorem mul_col {ι κ : Type} [Fintype κ] (M : Matrix ι κ α) (v : κ → α) : M * col v = col (M *ᵥ v) := by
  ext i j; rfl

theorem col_add {ι : Type} (v w : ι → α) : col v + col w = col (v + w) := by ext i j; rfl
theorem col_sub {ι : Type} (v w : ι → α) : col v - col w = col (v - w) := by ext i j; rfl

/-- entry `i` of a vector the source builds from a list (noise, measurement), in storage order -/
def ofL (l : List α) (i : Fin n) : α := l.getD i.val 0

theorem natIdx_inl (i : Fin n) : (NatIdx.toNat (Sum.inl i : Fin n ⊕ Fin n)) = i.val := rfl
theorem natIdx_inr (i : Fin n) : (NatIdx.toNat (Sum.inr i : Fin n ⊕ Fin n)) = n + i.val := rfl

theorem natIdx_inj {a b : Fin n ⊕ Fin n} : NatIdx.toNat a = NatIdx.toNat b ↔ a = b := by
  -- positions are below `n`, velocities at `n + ·`
  rcases a with i | i <;> rcases b with j | j
  · simp [natIdx_inl, Fin.ext_iff]
  · simp [natIdx_inl, natIdx_inr, (Nat.lt_add_right _ i.isLt).ne]
  · simp [natIdx_inl, natIdx_inr, (Nat.lt_add_right _ j.isLt).ne']
  · simp [natIdx_inr, Fin.ext_iff]

theorem identityRect_sum : (identityRect : Matrix (Fin n ⊕ Fin n) (Fin n ⊕ Fin n) α) = 1 := by
  ext a b; simp only [identityRect, natIdx_inj, Matrix.one_apply]

/-- `SMatrix::<n, 2n>::identity()` is the measurement matrix `H = [1 0]` -/
theorem identityRect_eq_Hm : (identityRect : Matrix (Fin n) (Fin n ⊕ Fin n) α) = Hm := by
  ext i (j | j)
  · simp [identityRect, Hm, Matrix.one_apply, natIdx_inl, show NatIdx.toNat i = i.val from rfl, Fin.ext_iff]
  · have : (i : ℕ) ≠ n + j := by omega
    simp [identityRect, Hm, natIdx_inr, show NatIdx.toNat i = i.val from rfl, this]

theorem foldl_setEntry {ι κ : Type} [NatIdx ι] [NatIdx κ] (f : ℕ → ℕ) (v : α) (l : List ℕ) (m : Matrix ι κ α) (a : ι) (b : κ) :
    l.foldl (fun m i => setEntry m i (f i) v) m a b =
      if NatIdx.toNat a ∈ l ∧ NatIdx.toNat b = f (NatIdx.toNat a) then v else m a b := by
  induction l generalizing m with
  | nil => simp
  | cons i l ih =>
    rw [List.foldl_cons, ih, setEntry]
    by_cases h : NatIdx.toNat a = i
    · subst h; by_cases hb : NatIdx.toNat b = f (NatIdx.toNat a) <;> simp [hb]
    · simp [h]

/-- **the motion matrix of `new`**, for every number of coordinates and every time step: the identity with `dt` written at
`(i, n + i)`, `i < n`, is `F = [[1, dt·1], [0, 1]]` -/
theorem motion_matrix_eq (dt : α) :
    (List.range' 0 n).foldl (fun m i => setEntry m i (n + i) dt) (identityRect : Matrix (Fin n ⊕ Fin n) (Fin n ⊕ Fin n) α) =
      fromBlocks 1 (dt • 1) 0 1 := by
  rw [identityRect_sum, ← fromBlocks_one]
  ext (i | i) (j | j) <;>
    simp only [foldl_setEntry, natIdx_inl, natIdx_inr, List.mem_range'_1, fromBlocks_apply₁₁,
      fromBlocks_apply₂₁, fromBlocks_apply₂₂]
  · rw [if_neg (by omega)]
  · simp [Matrix.one_apply, Fin.ext_iff, eq_comm]
  · rw [if_neg (by omega)]
  · rw [if_neg (by omega)]

theorem colOfList_append (a b : List α) (ha : a.length = n) :
    colOfList (ι := Fin n ⊕ Fin n) (a ++ b) = col (Sum.elim (ofL a) (ofL b)) := by
  ext (i | i) j
  · exact List.getD_append a b 0 i (ha ▸ i.isLt)
  · exact (List.getD_append_right a b 0 (n + i) (by omega)).trans (by rw [ha, Nat.add_sub_cancel_left]; rfl)

theorem diagOf_cmul_col {ι : Type} [DecidableEq ι] (v : ι → α) : diagOf (cmul (col v) (col v)) = diagonal (v * v) := rfl

theorem diagOf_sq_append (a b : List α) (ha : a.length = n) :
    diagOf (cmul (colOfList (ι := Fin n ⊕ Fin n) (a ++ b)) (colOfList (a ++ b))) =
      Qm (fun i => ofL a i * ofL a i) (fun i => ofL b i * ofL b i) := by
  rw [colOfList_append a b ha, diagOf_cmul_col, ← Sum.elim_mul_mul, ← fromBlocks_diagonal]; rfl

theorem predict_core (cs : Fin n → C1 α) (a b : List α) (ha : a.length = n) :
    ((Fm : Matrix _ _ α) * col (toMean cs),
      (Fm : Matrix _ _ α) * toCov cs * Fmᵀ + diagOf (cmul (colOfList (a ++ b)) (colOfList (a ++ b)))) =
    (col (toMean (fun i => predict1 (cs i) (ofL a i * ofL a i) (ofL b i * ofL b i))),
      toCov (fun i => predict1 (cs i) (ofL a i * ofL a i) (ofL b i * ofL b i))) := by
  rw [mul_col, C07_matrix_predict_mean cs (fun i => ofL a i * ofL a i) (fun i => ofL b i * ofL b i),
    diagOf_sq_append a b ha, C07_matrix_predict_cov]

theorem colOfList_fin (l : List α) : colOfList (ι := Fin n) l = col (ofL l) := rfl

theorem project_core (cs : Fin n → C1 α) (a : List α) :
    ((Hm : Matrix _ _ α) * col (toMean cs),
      (Hm : Matrix _ _ α) * toCov cs * Hmᵀ + diagOf (cmul (colOfList (ι := Fin n) a) (colOfList a))) =
    (col (fun i => (cs i).p), diagonal fun i => s1 (cs i) (ofL a i * ofL a i)) := by
  rw [mul_col, Hm_mulVec_toMean, colOfList_fin, diagOf_cmul_col, C07_matrix_innovation]; rfl

/-- contract of nalgebra's `solve_lower_triangular` on a diagonal matrix with non-zero diagonal: every row of the
right-hand side is divided by the diagonal entry (forward substitution with nothing below the diagonal) -/
def SolveLowerDiag (solveLower : {r c : Type} → [Fintype r] → [DecidableEq r] → Matrix r r α → Matrix r c α → Matrix r c α) : Prop :=
  ∀ {r c : Type} [Fintype r] [DecidableEq r] (d : r → α) (b : Matrix r c α), (∀ i, d i ≠ 0) →
    solveLower (diagonal d) b = fun i j => b i j / d i

section Solve
variable (solveLower : {r c : Type} → [Fintype r] → [DecidableEq r] → Matrix r r α → Matrix r c α → Matrix r c α)
  (hsolve : SolveLowerDiag solveLower)
include hsolve

/-- the gain the source computes, `solve(S, (P Hᵀ)ᵀ)`, is the transpose of the textbook gain `K = P Hᵀ S⁻¹` -/
theorem gain_core (cs : Fin n → C1 α) (r : Fin n → α) (hs : ∀ i, s1 (cs i) (r i) ≠ 0) :
    solveLower (diagonal fun i => s1 (cs i) (r i)) ((toCov cs * (Hm : Matrix _ _ α)ᵀ)ᵀ) = (Km cs r)ᵀ := by
  ext i j
  simp only [hsolve _ _ hs, ← C07_matrix_gain cs r hs, transpose_apply, mul_diagonal, mul_div_cancel_right₀ _ (hs i)]

/-- with `L = cholesky(S).l()` the diagonal matrix of square roots, `‖L⁻¹ (z − H m)‖²` is the
sum of the per-coordinate squared Mahalanobis distances -/
theorem distance_core (cs : Fin n → C1 α) (r z q : Fin n → α)
    (hq : ∀ i, q i * q i = s1 (cs i) (r i)) (hs : ∀ i, s1 (cs i) (r i) ≠ 0) :
    msum (cmul (solveLower (diagonal q) (col z - col fun i => (cs i).p)) (solveLower (diagonal q) (col z - col fun i => (cs i).p))) =
      ∑ i, dist1 (cs i) (r i) (z i) := by
  have hqne : ∀ i, q i ≠ 0 := fun i h0 => hs i (by rw [← hq i, h0, mul_zero])
  -- row `i` of the solution is `(zᵢ − pᵢ) / qᵢ`; squared and summed over the single column it is `(zᵢ − pᵢ)² / (qᵢ qᵢ)`
  simp only [hsolve _ _ hqne, msum, cmul, dist1, Finset.univ_unique, Finset.sum_singleton, col, Matrix.sub_apply,
    div_mul_div_comm, hq]

end Solve

theorem update_core (cs : Fin n → C1 α) (r z : Fin n → α) :
    (col (toMean cs) + ((col z - col (fun i => (cs i).p))ᵀ * (Km cs r)ᵀ)ᵀ,
      toCov cs - (Km cs r)ᵀᵀ * (diagonal fun i => s1 (cs i) (r i)) * (Km cs r)ᵀ) =
    (col (toMean (fun i => update1 (cs i) (r i) (z i))), toCov (fun i => update1 (cs i) (r i) (z i))) := by
  rw [transpose_transpose, C07_matrix_update_cov cs r z, ← C07_matrix_update_mean cs r z, Hm_mulVec_toMean]
  rw [← transpose_mul, transpose_transpose, col_sub, mul_col, col_add]

theorem initiate_core (z a b : List α) (hz : z.length = n) (ha : a.length = n) :
    (colOfList (ι := Fin n ⊕ Fin n) (z ++ List.replicate n 0),
      diagOf (cmul (colOfList (ι := Fin n ⊕ Fin n) (a ++ b)) (colOfList (a ++ b)))) =
    (col (toMean (fun i => init1 (ofL z i) (ofL a i) (ofL b i))), toCov (fun i => init1 (ofL z i) (ofL a i) (ofL b i))) := by
  rw [diagOf_sq_append a b ha, colOfList_append z _ hz, (C07_matrix_init (ofL z) (ofL a) (ofL b)).2]
  congr 3
  funext i; exact List.getD_replicate _ i.isLt

/-- `Universal2DBoxKalmanFilter::new`: identity with `DT` on the position/velocity couplings = `F = [[1, 1], [0, 1]]` (`DT = 1`) -/
theorem tie_box_motion_matrix : box_motion_matrix (1 : α) = (Fm : Matrix (Fin 5 ⊕ Fin 5) (Fin 5 ⊕ Fin 5) α) :=
  (motion_matrix_eq 1).trans (by rw [one_smul]; rfl)

/-- the `update_matrix` of `new`, `SMatrix::<5, 10>::identity()`, is the measurement matrix `H = [1 0]` -/
theorem tie_box_update_matrix : (box_update_matrix : Matrix (Fin 5) (Fin 5 ⊕ Fin 5) α) = Hm := identityRect_eq_Hm

theorem tie_point_motion_matrix : point_motion_matrix (1 : α) = (Fm : Matrix (Fin 2 ⊕ Fin 2) (Fin 2 ⊕ Fin 2) α) :=
  (motion_matrix_eq 1).trans (by rw [one_smul]; rfl)

theorem tie_point_update_matrix : (point_update_matrix : Matrix (Fin 2) (Fin 2 ⊕ Fin 2) α) = Hm := identityRect_eq_Hm

def boxMeas (b : Geom.UBox α) : List α := [b.xc, b.yc, b.angle.getD 0, b.aspect, b.height]

/-- `(cs 4).p` is the height: it scales the noise of every coordinate but 3 (aspect, `Gen.stdConstIndex`), whose noise is constant -/
theorem tie_box_project (cs : Fin 5 → C1 α) (wpos : α) :
    box_project Hm wpos (col (toMean cs)) (toCov cs) =
      (let a := box_std_position wpos 1 (1 / 10) (cs 4).p
       (col (fun i => (cs i).p), diagonal fun i => s1 (cs i) (ofL a i * ofL a i))) := by
  exact project_core cs _

theorem tie_box_distance (solveLower : {r c : Type} → [Fintype r] → [DecidableEq r] → Matrix r r α → Matrix r c α → Matrix r c α)
    (hsolve : SolveLowerDiag solveLower) (cholL : Matrix (Fin 5) (Fin 5) α → Matrix (Fin 5) (Fin 5) α)
    (cs : Fin 5 → C1 α) (wpos : α) (m : Geom.UBox α) (q : Fin 5 → α)
    (hchol : cholL (diagonal fun i => s1 (cs i) (ofL (box_std_position wpos 1 (1 / 10) (cs 4).p) i * ofL (box_std_position wpos 1 (1 / 10) (cs 4).p) i)) = diagonal q)
    (hq : ∀ i, q i * q i = s1 (cs i) (ofL (box_std_position wpos 1 (1 / 10) (cs 4).p) i * ofL (box_std_position wpos 1 (1 / 10) (cs 4).p) i))
    (hs : ∀ i, s1 (cs i) (ofL (box_std_position wpos 1 (1 / 10) (cs 4).p) i * ofL (box_std_position wpos 1 (1 / 10) (cs 4).p) i) ≠ 0) :
    box_distance solveLower cholL Hm wpos (col (toMean cs), toCov cs) m =
      ∑ i, dist1 (cs i) (ofL (box_std_position wpos 1 (1 / 10) (cs 4).p) i * ofL (box_std_position wpos 1 (1 / 10) (cs 4).p) i) (ofL (boxMeas m) i) := by
  unfold box_distance
  simp only [tie_box_project, hchol]
  exact distance_core solveLower hsolve cs _ (ofL (boxMeas m)) q hq hs

theorem tie_box_initiate (wpos wvel : α) (b : Geom.UBox α) :
    box_initiate wpos wvel b =
      (let sp := box_std_position wpos 2 (1 / 100) b.height
       let sv := box_std_velocity wvel 10 (1 / 100000) b.height
       (col (toMean (fun i => init1 (ofL (boxMeas b) i) (ofL sp i) (ofL sv i))),
        toCov (fun i => init1 (ofL (boxMeas b) i) (ofL sp i) (ofL sv i)))) :=
  initiate_core (boxMeas b) _ _ rfl rfl

def ptMeas (p : α × α) : List α := [p.1, p.2]

theorem tie_point_project (cs : Fin 2 → C1 α) (wpos : α) :
    point_project Hm wpos (col (toMean cs)) (toCov cs) =
      (let a := point_std_position wpos 1 0
       (col (fun i => (cs i).p), diagonal fun i => s1 (cs i) (ofL a i * ofL a i))) := by
  exact project_core cs _

theorem tie_point_distance (solveLower : {r c : Type} → [Fintype r] → [DecidableEq r] → Matrix r r α → Matrix r c α → Matrix r c α)
    (hsolve : SolveLowerDiag solveLower) (cholL : Matrix (Fin 2) (Fin 2) α → Matrix (Fin 2) (Fin 2) α)
    (cs : Fin 2 → C1 α) (wpos : α) (p : α × α) (q : Fin 2 → α)
    (hchol : cholL (diagonal fun i => s1 (cs i) (ofL (point_std_position wpos 1 0) i * ofL (point_std_position wpos 1 0) i)) = diagonal q)
    (hq : ∀ i, q i * q i = s1 (cs i) (ofL (point_std_position wpos 1 0) i * ofL (point_std_position wpos 1 0) i))
    (hs : ∀ i, s1 (cs i) (ofL (point_std_position wpos 1 0) i * ofL (point_std_position wpos 1 0) i) ≠ 0) :
    point_distance solveLower cholL Hm wpos (col (toMean cs), toCov cs) p =
      ∑ i, dist1 (cs i) (ofL (point_std_position wpos 1 0) i * ofL (point_std_position wpos 1 0) i) (ofL (ptMeas p) i) := by
  unfold point_distance
  simp only [tie_point_project, hchol]
  exact distance_core solveLower hsolve cs _ (ofL (ptMeas p)) q hq hs

theorem tie_point_initiate (wpos wvel : α) (p : α × α) :
    point_initiate wpos wvel p =
      (let sp := point_std_position wpos 2 0
       let sv := point_std_velocity wvel 10 0
       (col (toMean (fun i => init1 (ofL (ptMeas p) i) (ofL sp i) (ofL sv i))),
        toCov (fun i => init1 (ofL (ptMeas p) i) (ofL sp i) (ofL sv i)))) :=
  initiate_core (ptMeas p) _ _ rfl rfl

/-- **`Vec2DKalmanFilter` treats its points independently**: every method is a map of `f` over the elements (zipped with the
measurements), so element `i` of the result depends on element `i` of the arguments only. `f` is a free parameter here (in the
source it is the point filter's method), and the `assert_eq!` on the two lengths in `update` / `distance` is not a hypothesis:
where the lengths differ the source panics and `zip` truncates -/
theorem tie_vec_predict {S R : Type} (f : S → R) (sts : List S) : vec_predict (P := Unit) f sts = sts.map f := rfl
theorem tie_vec_initiate {P R : Type} (f : P → R) (ps : List P) : vec_initiate (S := Unit) f ps = ps.map f := rfl
theorem tie_vec_update {S P R : Type} (f : S → P → R) (sts : List S) (ps : List P) :
    vec_update f sts ps = (sts.zip ps).map (fun x => f x.1 x.2) := rfl
theorem tie_vec_distance {S P R : Type} (f : S → P → R) (sts : List S) (ps : List P) :
    vec_distance f sts ps = (sts.zip ps).map (fun x => f x.1 x.2) := rfl

/-- non-vacuity: a box state straight after `initiate` with positive weights and height has non-zero innovation variances -/
example : ∀ i : Fin 5, s1 (init1 (3 : ℚ) 2 1) (ofL (box_std_position (1 / 20 : ℚ) 1 (1 / 10) 4) i * ofL (box_std_position (1 / 20 : ℚ) 1 (1 / 10) 4) i) ≠ 0 := by
  decide +kernel

end SimVerif.Tie
