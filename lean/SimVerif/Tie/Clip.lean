import SimVerif.Gen.KClip
import SimVerif.Lemmas.Clip
/-!
# Tie (DESIGN.md 14.8): the two loops of `sutherland_hodgman_clip`
(`SimVerif.Gen.K.sutherland_hodgman_clip`, regenerated on every run by the state-passing translation of the
imperative body: index loops with wrap-around predecessor, `push` on a mutable vector) = the structural
recursion `shClip` of `SimVerif/Model/Geom.lean` that the C08 theorems are about (on the open vertex lists:
the code pops the closing point of both rings first). Only the loops are tied: for the callees `is_inside`,
`compute_intersection` the translator writes the model's `isInside`, `computeIntersection` by name, not the generated
`Gen.K.is_inside`, `Gen.K.compute_intersection` (those are tied in `Tie/Inter.lean`, the second where the offsets differ).
-/
namespace SimVerif.Tie
open SimVerif.Geom List

section Cyclic
variable {β σ : Type} [Inhabited β]

/-- thread a state through the cyclic pairs `(last, l₀), (l₀, l₁), …` of a list: on points, the fold over
`C08c.edgesFrom last l` -/
def walkState (h : β → β → σ → σ) : β → List β → σ → σ
  | _, [], st => st
  | prev, c :: r, st => walkState h c r (h prev c st)

/-- an index loop that reads `l[i]` and its cyclic predecessor is the walk over the list: from `k` on it walks `l.drop k` -/
theorem foldl_cyclic_from (h : β → β → σ → σ) (l : List β) (n : Nat) :
    ∀ (k : Nat) (st : σ), k + n = l.length →
      foldl (fun st i => h (l[if i = 0 then l.length - 1 else i - 1]!) (l[i]!) st) st (range' k n)
        = walkState h (l[if k = 0 then l.length - 1 else k - 1]!) (l.drop k) st := by
  induction n with
  | zero => intro k st hk; rw [drop_eq_nil_of_le (by omega)]; rfl
  | succ n ih =>
    intro k st hk
    have hlt : k < l.length := by omega
    rw [range'_succ, foldl_cons, ih (k + 1) _ (by omega), drop_eq_getElem_cons hlt, walkState]
    simp only [Nat.add_one_ne_zero, if_false, Nat.add_sub_cancel, getElem!_pos l k hlt]

theorem foldl_cyclic (h : β → β → σ → σ) (l : List β) (st : σ) :
    foldl (fun st i => h (l[if i = 0 then l.length - 1 else i - 1]!) (l[i]!) st) st (range' 0 (l.length - 0))
      = match l.getLast? with
        | none => st
        | some last => walkState h last l st := by
  rw [foldl_cyclic_from h l _ 0 st (by omega), drop_zero, if_pos rfl, getElem!_eq_getElem?_getD, ← getLast?_eq_getElem?]
  cases hl : l.getLast? with
  | none => rw [getLast?_eq_none_iff.mp hl]; rfl
  | some last => rfl
end Cyclic

variable {α : Type} [Field α] [LinearOrder α]

theorem walkState_emit (cs ce : Pt α) (prev : Pt α) (poly acc : List (Pt α)) :
    walkState (fun p c (a : List (Pt α)) => a ++ emit cs ce p c) prev poly acc = acc ++ clipEdge cs ce prev poly := by
  induction poly generalizing prev acc with
  | nil => simp [walkState, clipEdge]
  | cons c r ih =>
    rw [clipEdge_cons, walkState, ih, append_assoc]

theorem body_eq_append_emit (cs ce prev cur : Pt α) (fp : List (Pt α)) :
    (if isInside cur cs ce = true then
        (if (!isInside prev cs ce) = true then fp ++ [computeIntersection prev cur cs ce] else fp) ++ [cur]
      else if isInside prev cs ce = true then fp ++ [computeIntersection prev cur cs ce] else fp)
      = fp ++ emit cs ce prev cur := by
  unfold emit
  split_ifs <;> simp

theorem foldl_emit_eq_clipPass (cs ce : Pt α) (next : List (Pt α)) :
    foldl (fun (fp : List (Pt α)) j => fp ++ emit cs ce (next[if j = 0 then next.length - 1 else j - 1]!) (next[j]!))
      [] (range' 0 (next.length - 0)) = clipPass cs ce next := by
  rw [foldl_cyclic (fun p c (a : List (Pt α)) => a ++ emit cs ce p c) next [], clipPass]
  cases next.getLast? with
  | none => rfl
  | some last => simp only [walkState_emit, nil_append]

theorem walkState_clipPass (cprev : Pt α) (cl poly : List (Pt α)) :
    walkState (fun (cs ce : Pt α) (poly : List (Pt α)) => clipPass cs ce poly) cprev cl poly = clipLoop cprev cl poly := by
  induction cl generalizing cprev poly with
  | nil => rfl
  | cons c r ih => simp only [walkState, clipLoop, ih]

theorem foldl_clipPass_eq_shClip (subject cl : List (Pt α)) :
    foldl (fun (poly : List (Pt α)) i => clipPass (cl[if i = 0 then cl.length - 1 else i - 1]!) (cl[i]!) poly)
      subject (range' 0 (cl.length - 0)) = shClip subject cl := by
  rw [foldl_cyclic (fun (cs ce : Pt α) (poly : List (Pt α)) => clipPass cs ce poly) cl subject, shClip]
  cases cl.getLast? with
  | none => rfl
  | some last => exact walkState_clipPass last cl subject

theorem tie_sutherland_hodgman_clip (subject clipping : List (Pt α)) :
    Gen.K.sutherland_hodgman_clip subject clipping = shClip subject.dropLast clipping.dropLast := by
  unfold Gen.K.sutherland_hodgman_clip
  simp only [decide_eq_true_eq, body_eq_append_emit, foldl_emit_eq_clipPass, foldl_clipPass_eq_shClip]

end SimVerif.Tie
