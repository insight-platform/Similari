import SimVerif.Gen.LOwn
import SimVerif.Lemmas.List
import Mathlib.Data.List.Basic
/-!
# Tie: `exclusively_owned_areas`
(`SimVerif.Gen.L.exclusively_owned_areas`, regenerated on every run: the pair pre-filter double loop into a `HashSet`, then for
every box the loop of `difference`s over the near boxes; `geo`'s `difference`, the polygon of a box and `too_far` are
parameters) = the specification *"box `i` is clipped, in index order, against every other box `j` of the set for which the
pair (lower index first) is not `too_far`"* — the structural half of C15; the other half (`geo`'s `difference` and
`unsigned_area`) is a contract exercised by the correspondence run. `ownSpec` and the right side of `tie_own_area_shares` are
written in this file; no theorem relates them to `OwnArea.own`, `OwnArea.shareOf` of the grid model.
-/
namespace SimVerif.Tie
open SimVerif.Gen.L SimVerif.ListFacts

variable {B P : Type}

/-- the pair of boxes at indices `i ≠ j` is near: not `too_far`, asked with the lower index first -/
def nearB (tooFar : B → B → Bool) (boxes : List B) (i j : Nat) : Bool :=
  match boxes[i]?, boxes[j]? with
  | some x, some y => (decide (i < j) && !tooFar x y) || (decide (j < i) && !tooFar y x)
  | _, _ => false

def ownSpec (tooFar : B → B → Bool) (polyOf : B → P) (diff : P → P → P) (boxes : List B) : List P :=
  boxes.zipIdx.map (fun (own, i) =>
    boxes.zipIdx.foldl (fun p (other, j) => if nearB tooFar boxes i j then diff p (polyOf other) else p) (polyOf own))

/-- a copy of the generated pre-filter loop, matched by `unfold pairSet at this` in `tie_exclusively_owned_areas` -/
def pairSet (tooFar : B → B → Bool) (boxes : List B) : List (Nat × Nat) :=
  List.foldl (fun distances (x : B × Nat) =>
    List.foldl (fun distances (y : B × Nat) => if !(tooFar x.1 y.1) then (x.2, (y.2 + x.2) + 1) :: distances else distances)
      distances (List.zipIdx (List.drop (x.2 + 1) boxes))) [] (List.zipIdx boxes)

theorem mem_pairSet (tooFar : B → B → Bool) (boxes : List B) (a b : Nat) :
    (a, b) ∈ pairSet tooFar boxes ↔ ∃ x y, boxes[a]? = some x ∧ boxes[b]? = some y ∧ a < b ∧ tooFar x y = false := by
  unfold pairSet
  rw [mem_foldl_acc _ (fun (x : B × Nat) (pr : Nat × Nat) => ∃ y ∈ List.zipIdx (List.drop (x.2 + 1) boxes),
      (!(tooFar x.1 y.1)) = true ∧ (x.2, (y.2 + x.2) + 1) = pr)
    fun acc y x => mem_foldl_cond (fun (z : B × Nat) => !(tooFar y.1 z.1)) (fun z => (y.2, (z.2 + y.2) + 1)) _ acc x]
  -- the inner loop for `(x, i)` meets `(y, j)` with `boxes[i + 1 + j] = y` and records `(i, j + i + 1)`
  simp only [List.not_mem_nil, false_or, Prod.exists, List.mk_mem_zipIdx_iff_getElem?, List.getElem?_drop, Prod.mk.injEq,
    Bool.not_eq_true']
  constructor
  · rintro ⟨x, i, hx, y, j, hy, hfar, rfl, rfl⟩
    exact ⟨x, y, hx, by rwa [show j + i + 1 = i + 1 + j by omega], by omega, hfar⟩
  · rintro ⟨x, y, hx, hy, hlt, hfar⟩
    exact ⟨x, a, hx, y, b - a - 1, by rwa [show a + 1 + (b - a - 1) = b by omega], hfar, rfl, by omega⟩

theorem contains_pair (tooFar : B → B → Bool) (boxes : List B) (i j : Nat) (x y : B)
    (hi : boxes[i]? = some x) (hj : boxes[j]? = some y) :
    ((pairSet tooFar boxes).contains (i, j) || (pairSet tooFar boxes).contains (j, i)) = nearB tooFar boxes i j := by
  rw [Bool.eq_iff_iff]
  simp only [Bool.or_eq_true, List.contains_iff_mem, mem_pairSet, nearB, hi, hj, Bool.and_eq_true, decide_eq_true_eq,
    Bool.not_eq_true']
  constructor
  · rintro (⟨x', y', hx', hy', hlt, hfar⟩ | ⟨x', y', hx', hy', hlt, hfar⟩)
    · cases hx'; cases hy'; exact Or.inl ⟨hlt, hfar⟩
    · cases hx'; cases hy'; exact Or.inr ⟨hlt, hfar⟩
  · rintro (⟨hlt, hfar⟩ | ⟨hlt, hfar⟩)
    · exact Or.inl ⟨x, y, rfl, rfl, hlt, hfar⟩
    · exact Or.inr ⟨y, x, rfl, rfl, hlt, hfar⟩

theorem tie_exclusively_owned_areas (tooFar : B → B → Bool) (polyOf : B → P) (diff : P → P → P) (boxes : List B) :
    exclusively_owned_areas tooFar polyOf diff boxes = ownSpec tooFar polyOf diff boxes := by
  unfold exclusively_owned_areas ownSpec enumerateL
  simp only [List.map_map]
  apply List.map_congr_left
  rintro ⟨own, i⟩ hown
  apply List.foldl_ext
  rintro acc ⟨other, j⟩ hother
  rw [List.mk_mem_zipIdx_iff_getElem?] at hown hother
  have := contains_pair tooFar boxes i j own other hown hother
  unfold pairSet at this
  simp only [this]

theorem nearB_irrefl (tooFar : B → B → Bool) (boxes : List B) (i : Nat) : nearB tooFar boxes i i = false := by
  unfold nearB; cases boxes[i]? <;> simp

/-- nearness is symmetric: the pair is asked once, lower index first, and serves both boxes -/
theorem nearB_symm (tooFar : B → B → Bool) (boxes : List B) (i j : Nat) : nearB tooFar boxes i j = nearB tooFar boxes j i := by
  unfold nearB; cases boxes[i]? <;> cases boxes[j]? <;> simp [Bool.or_comm]

theorem tie_own_area_shares (areaOf : B → Rat) (polyArea : P → Rat) (eps : Rat) (boxes : List B) (polys : List P) :
    own_area_shares areaOf polyArea eps boxes polys =
      (boxes.zip polys).map (fun bp => if polyArea bp.2 / (areaOf bp.1 + eps) ≥ 1 then 1 else polyArea bp.2 / (areaOf bp.1 + eps)) := by
  unfold own_area_shares
  simp only [List.map_map]
  apply List.map_congr_left
  simp [Function.comp]

/-- non-vacuity: three boxes in a row, the middle one near both neighbours, the outer ones far from each other -/
example : exclusively_owned_areas (fun (a b : Nat) => decide (a + 1 < b ∨ b + 1 < a)) (fun b => [b]) (fun p q => p ++ q) [10, 11, 12]
    = [[10, 11], [11, 10, 12], [12, 11]] := by decide

end SimVerif.Tie
