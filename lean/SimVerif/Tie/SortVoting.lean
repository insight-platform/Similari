import SimVerif.Gen.LSortVoting
import SimVerif.Lemmas.Assign
import SimVerif.Tie.Map
import SimVerif.Lemmas.List
import Mathlib.Data.List.Nodup
/-!
# Tie: `SortVoting::winners` (`Gen.L.sort_voting_winners`; `kuhn_munkres` is a parameter)

`svMatrix` (the matrix handed to the solver), `absRun` (candidates, tracks and weights of a stream by id) and `Wfin` are defined
here; the chain ends in one model definition, `Assign.M` of `Lemmas/Assign.lean`: on the candidate rows and on the columns of
the candidates and of the tracks named in the stream, `svMatrix` **is** `Assign.M thr (Wfin (absRun …))` (own column worth the
threshold, the other candidates' own columns 0, track columns the weights of the stream; rows and track columns in
first-appearance order), and the index vector decodes them back to those ids — for streams that are `okRun`. Columns beyond
the named tracks (the source allots `track_num`) and the solver's answer are not spoken of; `C02_decode`, `C02_optimal`,
`C17_hungarian` are about `Assign.M` for every optimal `σ`.
-/
namespace SimVerif.Tie
open SimVerif.Gen.L SimVerif.ListFacts

theorem getD_mem (l : List Nat) (i : Nat) (h : i < l.length) : l.getD i 0 ∈ l := by
  rw [← List.getElem_eq_getD (h := h)]; exact List.getElem_mem h

abbrev CS := Nat × VecN × List (Nat × Nat) × (Nat → Nat → Int)

/-- one iteration of the first loop (the text of the generated fold body, normalised) -/
def svStep (quant : Rat → Int) (mult : Rat) (st : CS) (d : SD) : CS :=
  match st, d with
  | (candidates_index, tracks_index, tracks_r_index, cost_matrix), ⟨from_, to_, attribute_metric⟩ =>
    let weight := quant (attribute_metric.getD 0 * mult)
    match mapGet tracks_r_index from_ with
    | some row =>
      (match mapGet tracks_r_index to_ with
       | some col => (candidates_index, tracks_index, tracks_r_index, matSet cost_matrix (row, col) weight)
       | none => (candidates_index, vecPush tracks_index to_, mapSet tracks_r_index to_ (vecLen tracks_index),
                  matSet cost_matrix (row, vecLen tracks_index) weight))
    | none =>
      let row := candidates_index
      let tracks_index1 := vecSet tracks_index row from_
      let tracks_r_index1 := mapSet tracks_r_index from_ row
      (match mapGet tracks_r_index1 to_ with
       | some col => (candidates_index + 1, tracks_index1, tracks_r_index1, matSet cost_matrix (row, col) weight)
       | none => (candidates_index + 1, vecPush tracks_index1 to_, mapSet tracks_r_index1 to_ (vecLen tracks_index1),
                  matSet cost_matrix (row, vecLen tracks_index1) weight))

/-- the generated function is: nothing for an empty store; otherwise the fold of `svStep`, the diagonal loop (which carries the
whole state along), the solver, the decode -/
theorem gen_sort_voting (quant : Rat → Int) (mult : Rat) (km : (Nat → Nat → Int) → Int × List Nat) (thr : Int) (cn tn : Nat) (ds : List SD) :
    sort_voting_winners quant mult km thr cn tn ds =
      (if tn = 0 then [] else
        let st := List.foldl (svStep quant mult) (0, vecResize vecEmpty cn 0, [], fun _ _ => 0) ds
        let st2 := List.foldl (fun (x : CS) i => (x.1, x.2.1, x.2.2.1, matSet x.2.2.2 (i, i) thr)) st (List.range' 0 cn)
        (enumerateL (km st2.2.2.2).2).filterMap (fun (p : Nat × Nat) =>
          if decide (vecGet st2.2.1 p.1 > 0) && decide (vecGet st2.2.1 p.2 > 0) then some (vecGet st2.2.1 p.1, [vecGet st2.2.1 p.2]) else none)) := by
  unfold sort_voting_winners
  by_cases h : tn = 0
  · simp [h]
  · rw [if_neg h, if_neg (by simpa using h)]
    rfl

theorem foldl_diag_snd (thr : Int) (l : List Nat) (c : CS) :
    List.foldl (fun (x : CS) i => (x.1, x.2.1, x.2.2.1, matSet x.2.2.2 (i, i) thr)) c l =
      (c.1, c.2.1, c.2.2.1, List.foldl (fun (m : Nat → Nat → Int) i => matSet m (i, i) thr) c.2.2.2 l) := by
  induction l generalizing c with
  | nil => rfl
  | cons i rest ih => rw [List.foldl_cons, ih]; rfl

/-- what the loop has built, in terms of ids: candidates and tracks in first-appearance order, weights by (candidate id, track id) -/
structure AS where
  qs : List Nat
  ts : List Nat
  W : Nat → Nat → Int

/-- the concrete state represents the abstract one; the index vector holds the candidates, then a gap up to `candidate_num`,
then the tracks -/
structure Rel (cn : Nat) (c : CS) (a : AS) : Prop where
  ci : c.1 = a.qs.length
  le : a.qs.length ≤ cn
  len : c.2.1.1 = cn + a.ts.length
  cand : ∀ i, i < a.qs.length → c.2.1.2 i = a.qs.getD i 0
  gap : ∀ i, a.qs.length ≤ i → i < cn → c.2.1.2 i = 0
  trk : ∀ k, k < a.ts.length → c.2.1.2 (cn + k) = a.ts.getD k 0
  ridx : ∀ id, mapGet c.2.2.1 id = if id ∈ a.qs then some (a.qs.idxOf id) else if id ∈ a.ts then some (cn + a.ts.idxOf id) else none
  mat : ∀ i j, c.2.2.2 i j = if i < a.qs.length ∧ cn ≤ j ∧ j < cn + a.ts.length then a.W (a.qs.getD i 0) (a.ts.getD (j - cn) 0) else 0
  wz : ∀ x y, (x ∉ a.qs ∨ y ∉ a.ts) → a.W x y = 0
  ndq : a.qs.Nodup
  ndt : a.ts.Nodup
  disj : ∀ x, x ∈ a.qs → x ∉ a.ts

/-- get-or-insert of a candidate / track id in the reverse index (the two `unwrap_or_else` closures): the row / column it has
or gets, and the state afterwards -/
def regC (c : CS) (f : Nat) : Nat × CS :=
  match mapGet c.2.2.1 f with
  | some row => (row, c)
  | none => (c.1, (c.1 + 1, vecSet c.2.1 c.1 f, mapSet c.2.2.1 f c.1, c.2.2.2))

def regT (c : CS) (t : Nat) : Nat × CS :=
  match mapGet c.2.2.1 t with
  | some col => (col, c)
  | none => (vecLen c.2.1, (c.1, vecPush c.2.1 t, mapSet c.2.2.1 t (vecLen c.2.1), c.2.2.2))

theorem svStep_eq (quant : Rat → Int) (mult : Rat) (c : CS) (d : SD) :
    svStep quant mult c d =
      (let rc := regC c d.frm
       let rt := regT rc.2 d.to
       (rt.2.1, rt.2.2.1, rt.2.2.2.1, matSet rt.2.2.2.2 (rc.1, rt.1) (quant (d.attr.getD 0 * mult)))) := by
  obtain ⟨ci, ti, r, m⟩ := c
  obtain ⟨f, t, a⟩ := d
  simp only [svStep, regC, regT]
  cases h1 : mapGet r f with
  | some row => simp only []; cases h2 : mapGet r t <;> rfl
  | none => simp only []; cases h2 : mapGet (mapSet r f ci) t <;> rfl

theorem regC_rel (cn : Nat) (c : CS) (a : AS) (h : Rel cn c a) (f : Nat) (hft : f ∉ a.ts)
    (hcap : (if f ∈ a.qs then a.qs else a.qs ++ [f]).length ≤ cn) :
    Rel cn (regC c f).2 { a with qs := if f ∈ a.qs then a.qs else a.qs ++ [f] } ∧
    (regC c f).1 = (if f ∈ a.qs then a.qs else a.qs ++ [f]).idxOf f := by
  obtain ⟨ci, ti, r, m⟩ := c
  have hr := h.ridx f
  by_cases hf : f ∈ a.qs
  · simp only [hf, if_true] at hr ⊢
    simp only [regC, hr]
    exact ⟨h, trivial⟩
  · simp only [hf, if_false, hft] at hr hcap ⊢
    simp only [regC, hr]
    obtain rfl : ci = a.qs.length := h.ci
    have hlt : a.qs.length < cn := by simpa [Nat.succ_le_iff] using hcap
    refine ⟨?_, (idxOf_snoc_self _ _ hf).symm⟩
    refine ⟨by simp, hcap, h.len, fun i hi => ?_, fun i hi hic => ?_, fun k hk => ?_, fun id => ?_, fun i j => ?_,
      fun x y hxy => h.wz x y (hxy.imp_left fun hx hh => hx (List.mem_append_left _ hh)), ?_, h.ndt, fun x hx => ?_⟩
    -- the index vector: the new candidate takes the first row of the gap
    · simp only [vecSet, getD_snoc, List.length_append, List.length_singleton] at hi ⊢
      split
      · rfl
      · next hne => exact h.cand i (Nat.lt_of_le_of_ne (Nat.le_of_lt_succ hi) hne)
    · simp only [vecSet, List.length_append, List.length_singleton] at hi ⊢
      rw [if_neg (Nat.ne_of_gt hi)]; exact h.gap i (Nat.le_of_lt hi) hic
    · simp only [vecSet]
      rw [if_neg (Nat.ne_of_gt (Nat.lt_of_lt_of_le hlt (Nat.le_add_right cn k)))]; exact h.trk k hk
    -- the reverse index: `f` gets the new slot, an old id keeps its position (`List.idxOf_append_of_mem`)
    · rw [mapGet_mapSet, h.ridx id]
      by_cases hid : id = f
      · simp [hid, idxOf_snoc_self _ _ hf]
      · by_cases hq : id ∈ a.qs <;> simp [hid, hq, List.idxOf_append_of_mem]
    -- the new row of the matrix is still zero, and so is `W f _`
    · rw [h.mat i j]
      simp only [List.length_append, List.length_singleton, getD_snoc]
      by_cases hi : i = a.qs.length
      · subst hi
        simp only [Nat.lt_irrefl, false_and, if_false, Nat.lt_succ_self, true_and, if_true]
        split
        · exact (h.wz f _ (Or.inl hf)).symm
        · rfl
      · have hlt : i < a.qs.length + 1 ↔ i < a.qs.length := Nat.lt_succ_iff_lt_or_eq.trans (or_iff_left hi)
        simp only [hi, if_false, hlt]
    · exact nodup_snoc _ _ h.ndq hf
    · rcases List.mem_append.mp hx with hx | hx
      · exact h.disj x hx
      · rwa [List.mem_singleton.mp hx]

theorem regT_rel (cn : Nat) (c : CS) (a : AS) (h : Rel cn c a) (t : Nat) (htq : t ∉ a.qs) :
    Rel cn (regT c t).2 { a with ts := if t ∈ a.ts then a.ts else a.ts ++ [t] } ∧
    (regT c t).1 = cn + (if t ∈ a.ts then a.ts else a.ts ++ [t]).idxOf t ∧ (regT c t).2.1 = c.1 := by
  obtain ⟨ci, ti, r, m⟩ := c
  have hr := h.ridx t
  by_cases ht : t ∈ a.ts
  · simp only [htq, if_false, ht, if_true] at hr ⊢
    simp only [regT, hr]
    exact ⟨h, trivial, trivial⟩
  · simp only [htq, ht, if_false] at hr ⊢
    simp only [regT, hr]
    have hlen : ti.1 = cn + a.ts.length := h.len
    have hcn : cn ≤ ti.1 := hlen ▸ Nat.le_add_right cn _
    refine ⟨?_, by rw [idxOf_snoc_self _ _ ht]; exact hlen, trivial⟩
    refine ⟨h.ci, h.le, by simp only [vecPush, List.length_append, List.length_singleton]; exact congrArg (· + 1) hlen,
      fun i hi => ?_, fun i hi hic => ?_, fun k hk => ?_, fun id => ?_, fun i j => ?_,
      fun x y hxy => h.wz x y (hxy.imp_right fun hy hh => hy (List.mem_append_left _ hh)), h.ndq, ?_, fun x hx => ?_⟩
    -- the index vector: the new track is pushed behind the tracks, beyond every candidate row
    · simp only [vecPush] at hi ⊢
      rw [if_neg (Nat.ne_of_lt (Nat.lt_of_lt_of_le hi (Nat.le_trans h.le hcn)))]; exact h.cand i hi
    · simp only [vecPush]
      rw [if_neg (Nat.ne_of_lt (Nat.lt_of_lt_of_le hic hcn))]; exact h.gap i hi hic
    · simp only [vecPush, getD_snoc, hlen, Nat.add_left_cancel_iff, List.length_append, List.length_singleton] at hk ⊢
      split
      · rfl
      · next hne => exact h.trk k (Nat.lt_of_le_of_ne (Nat.le_of_lt_succ hk) hne)
    · rw [mapGet_mapSet, h.ridx id]
      by_cases hid : id = t
      · simp [hid, htq, idxOf_snoc_self _ _ ht, vecLen, hlen]
      · by_cases hq : id ∈ a.qs <;> by_cases hts : id ∈ a.ts <;> simp [hid, hq, hts, List.idxOf_append_of_mem]
    -- the new column of the matrix is still zero, and so is `W _ t`
    · rw [h.mat i j]
      simp only [List.length_append, List.length_singleton, getD_snoc]
      by_cases hj : j = cn + a.ts.length
      · subst hj
        simp only [Nat.lt_irrefl, and_false, if_false, Nat.le_add_right, Nat.add_sub_cancel_left, if_true,
          show cn + a.ts.length < cn + (a.ts.length + 1) from Nat.lt_succ_self _, and_true]
        split
        · exact (h.wz _ t (Or.inr ht)).symm
        · rfl
      · have hlt : j < cn + (a.ts.length + 1) ↔ j < cn + a.ts.length := Nat.lt_succ_iff_lt_or_eq.trans (or_iff_left hj)
        simp only [hlt]
        split
        · next hc => rw [if_neg (Nat.ne_of_lt (Nat.sub_lt_left_of_lt_add hc.2.1 hc.2.2))]
        · rfl
    · exact nodup_snoc _ _ h.ndt ht
    · intro hh
      rcases List.mem_append.mp hh with hh | hh
      · exact h.disj x hx hh
      · exact htq (List.mem_singleton.mp hh ▸ hx)

theorem write_rel (cn : Nat) (c : CS) (a : AS) (h : Rel cn c a) (f t : Nat) (w : Int) (hf : f ∈ a.qs) (ht : t ∈ a.ts) :
    Rel cn (c.1, c.2.1, c.2.2.1, matSet c.2.2.2 (a.qs.idxOf f, cn + a.ts.idxOf t) w)
      { a with W := fun x y => if x = f ∧ y = t then w else a.W x y } := by
  obtain ⟨ci, ti, r, m⟩ := c
  refine ⟨h.ci, h.le, h.len, h.cand, h.gap, h.trk, h.ridx, fun i j => ?_, fun x y hxy => ?_, h.ndq, h.ndt, h.disj⟩
  · have hfi := List.idxOf_lt_length_iff.mpr hf
    have hti := List.idxOf_lt_length_iff.mpr ht
    simp only [matSet]
    rw [show m i j = _ from h.mat i j]
    by_cases hr : i < a.qs.length ∧ cn ≤ j ∧ j < cn + a.ts.length
    -- inside the weights: the cell written is the one of the pair `(f, t)`, ids and positions determining each other
    · rw [if_pos hr, if_pos hr]
      simp only [getD_eq_iff _ h.ndq f i hf hr.1,
        getD_eq_iff _ h.ndt t (j - cn) ht (Nat.sub_lt_left_of_lt_add hr.2.1 hr.2.2)]
      exact if_congr (and_congr_right' (Nat.sub_eq_iff_eq_add' hr.2.1).symm) rfl rfl
    · rw [if_neg hr, if_neg hr,
        if_neg (by rintro ⟨rfl, rfl⟩; exact hr ⟨hfi, Nat.le_add_right _ _, Nat.add_lt_add_left hti cn⟩)]
  · show (if x = f ∧ y = t then w else a.W x y) = 0
    rw [if_neg (by rintro ⟨rfl, rfl⟩; exact hxy.elim (· hf) (· ht))]
    exact h.wz x y hxy

def absStep (quant : Rat → Int) (mult : Rat) (a : AS) (d : SD) : AS :=
  { qs := if d.frm ∈ a.qs then a.qs else a.qs ++ [d.frm],
    ts := if d.to ∈ a.ts then a.ts else a.ts ++ [d.to],
    W := fun x y => if x = d.frm ∧ y = d.to then quant (d.attr.getD 0 * mult) else a.W x y }

/-- the stream is well-formed for `candidate_num`: candidate ids and track ids are kept apart (the trackers draw candidate ids at
random, track ids come from the store) and there are at most `candidate_num` distinct candidates (`SortVoting::new` is given
their number) — otherwise the source indexes out of bounds / mixes the two index ranges -/
def okRun (quant : Rat → Int) (mult : Rat) (cn : Nat) : AS → List SD → Prop
  | _, [] => True
  | a, d :: rest =>
    d.frm ∉ a.ts ∧ d.to ∉ a.qs ∧ d.frm ≠ d.to ∧ (if d.frm ∈ a.qs then a.qs else a.qs ++ [d.frm]).length ≤ cn ∧
    okRun quant mult cn (absStep quant mult a d) rest

theorem step_rel (quant : Rat → Int) (mult : Rat) (cn : Nat) (c : CS) (a : AS) (h : Rel cn c a) (d : SD)
    (h1 : d.frm ∉ a.ts) (h2 : d.to ∉ a.qs) (h3 : d.frm ≠ d.to)
    (h4 : (if d.frm ∈ a.qs then a.qs else a.qs ++ [d.frm]).length ≤ cn) :
    Rel cn (svStep quant mult c d) (absStep quant mult a d) := by
  rw [svStep_eq]
  obtain ⟨hc, hrow⟩ := regC_rel cn c a h d.frm h1 h4
  obtain ⟨ht, hcol, _⟩ := regT_rel cn (regC c d.frm).2 _ hc d.to
    (fun hm => ((mem_ite_snoc_iff _ _ _).mp hm).elim h2 (fun e => h3 e.symm))
  simp only [hrow, hcol]
  exact write_rel cn _ _ ht d.frm d.to _ ((mem_ite_snoc_iff _ _ _).mpr (Or.inr rfl)) ((mem_ite_snoc_iff _ _ _).mpr (Or.inr rfl))

theorem run_rel (quant : Rat → Int) (mult : Rat) (cn : Nat) (ds : List SD) (c : CS) (a : AS) (h : Rel cn c a)
    (hok : okRun quant mult cn a ds) :
    Rel cn (List.foldl (svStep quant mult) c ds) (List.foldl (absStep quant mult) a ds) := by
  induction ds generalizing c a with
  | nil => exact h
  | cons d rest ih =>
    obtain ⟨h1, h2, h3, h4, h5⟩ := hok
    exact ih _ _ (step_rel quant mult cn c a h d h1 h2 h3 h4) h5

theorem init_rel (cn : Nat) : Rel cn (0, vecResize vecEmpty cn 0, [], fun _ _ => 0) ⟨[], [], fun _ _ => 0⟩ where
  ci := rfl
  le := Nat.zero_le _
  len := rfl
  cand _ hi := absurd hi (Nat.not_lt_zero _)
  gap i _ _ := if_neg (t := vecEmpty.2 i) (Nat.not_lt_zero i)
  trk _ hk := absurd hk (Nat.not_lt_zero _)
  ridx _ := rfl
  mat i _ := (if_neg fun hc => Nat.not_lt_zero i hc.1).symm
  wz _ _ _ := rfl
  ndq := List.nodup_nil
  ndt := List.nodup_nil
  disj _ hx := absurd hx List.not_mem_nil

theorem foldl_diag_apply (thr : Int) (m : Nat → Nat → Int) (n : Nat) (i j : Nat) :
    List.foldl (fun (m : Nat → Nat → Int) k => matSet m (k, k) thr) m (List.range' 0 n) i j =
      if i = j ∧ i < n then thr else m i j := by
  induction n with
  | zero => simp
  | succ n ih =>
    rw [List.range'_concat, List.foldl_append]
    simp only [List.foldl_cons, List.foldl_nil, matSet, Nat.zero_add, Nat.one_mul, ih]
    by_cases hn : i = n ∧ j = n
    · rw [if_pos hn, if_pos ⟨hn.1.trans hn.2.symm, hn.1 ▸ Nat.lt_succ_self n⟩]
    · rw [if_neg hn]
      exact if_congr (and_congr_right fun hij => ⟨Nat.lt_succ_of_lt,
        fun hl => Nat.lt_of_le_of_ne (Nat.le_of_lt_succ hl) fun e => hn ⟨e, hij ▸ e⟩⟩) rfl rfl

/-- what the stream amounts to: candidates and tracks in first-appearance order, last weight written for every pair -/
def absRun (quant : Rat → Int) (mult : Rat) (ds : List SD) : AS := List.foldl (absStep quant mult) ⟨[], [], fun _ _ => 0⟩ ds

/-- weights by row / track-column position, 0 on unused rows: the `W` of `Assign.M` -/
def Wfin (a : AS) (cn : Nat) (i : Fin cn) (k : Fin a.ts.length) : Int :=
  if i.val < a.qs.length then a.W (a.qs.getD i.val 0) (a.ts.getD k.val 0) else 0

def colIdx (cn : Nat) {t : Nat} : Assign.Col cn t → Nat
  | .inl j => j.val
  | .inr k => cn + k.val

def svMatrix (quant : Rat → Int) (mult : Rat) (thr : Int) (cn : Nat) (ds : List SD) : Nat → Nat → Int :=
  List.foldl (fun (m : Nat → Nat → Int) i => matSet m (i, i) thr)
    (List.foldl (svStep quant mult) (0, vecResize vecEmpty cn 0, [], fun _ _ => 0) ds).2.2.2 (List.range' 0 cn)

/-- **the matrix `kuhn_munkres` is given is `Assign.M thr W`**: a candidate's own column is worth the threshold, the other
candidates' own columns 0, the track columns the quantised weights of the stream (rows and track columns in first-appearance
order) — the matrix of `C02_decode`, `C02_optimal`, `C17_hungarian` -/
theorem tie_sort_voting_matrix (quant : Rat → Int) (mult : Rat) (thr : Int) (cn : Nat) (ds : List SD)
    (hok : okRun quant mult cn ⟨[], [], fun _ _ => 0⟩ ds) (i : Fin cn) (x : Assign.Col cn (absRun quant mult ds).ts.length) :
    svMatrix quant mult thr cn ds i.val (colIdx cn x) = Assign.M thr (Wfin (absRun quant mult ds) cn) i x := by
  have hrel : Rel cn _ (absRun quant mult ds) := run_rel quant mult cn ds _ _ (init_rel cn) hok
  unfold svMatrix
  rw [foldl_diag_apply, hrel.mat]
  have hi := i.isLt
  cases x with
  | inl j =>
    -- a candidate column: only the diagonal loop writes there, the stream loop writes track columns
    have hj := j.isLt
    simp only [colIdx, Assign.M, Fin.ext_iff, hi, and_true, Nat.not_le.mpr hj, false_and, and_false, if_false]
  | inr k =>
    have hk := k.isLt
    simp only [colIdx, Assign.M, Wfin, Nat.ne_of_lt (Nat.lt_of_lt_of_le hi (Nat.le_add_right cn k.val)), false_and, if_false, Nat.le_add_right,
      Nat.add_lt_add_iff_left, hk, Nat.add_sub_cancel_left, and_true]

/-- **the decode**: row `i` is candidate `qs[i]` (0 for an unused row), track column `k` is track `ts[k]` -/
theorem tie_sort_voting_index (quant : Rat → Int) (mult : Rat) (cn : Nat) (ds : List SD)
    (hok : okRun quant mult cn ⟨[], [], fun _ _ => 0⟩ ds) :
    let ti := (List.foldl (svStep quant mult) (0, vecResize vecEmpty cn 0, [], fun _ _ => 0) ds).2.1
    let a := absRun quant mult ds
    (∀ i, i < cn → vecGet ti i = if i < a.qs.length then a.qs.getD i 0 else 0) ∧
    (∀ k, k < a.ts.length → vecGet ti (cn + k) = a.ts.getD k 0) ∧ a.qs.Nodup ∧ a.ts.Nodup := by
  intro ti a
  have hrel := run_rel quant mult cn ds _ _ (init_rel cn) hok
  refine ⟨?_, hrel.trk, hrel.ndq, hrel.ndt⟩
  intro i hi
  by_cases h : i < a.qs.length
  · simp only [h, if_true]; exact hrel.cand i h
  · simp only [h, if_false]; exact hrel.gap i (Nat.le_of_not_lt h) hi

/-- an empty store: no association at all (every detection starts a track) -/
theorem tie_sort_voting_empty (quant : Rat → Int) (mult : Rat) (km : (Nat → Nat → Int) → Int × List Nat) (thr : Int) (cn : Nat) (ds : List SD) :
    sort_voting_winners quant mult km thr cn 0 ds = [] := rfl

/-- **`SortVoting::winners` of the source**: the solver is run on `svMatrix` (= `Assign.M`, above) and its solution `row ↦ column`
is decoded through the index vector; pairs with a zero id (unused rows) are dropped -/
theorem tie_sort_voting_winners (quant : Rat → Int) (mult : Rat) (km : (Nat → Nat → Int) → Int × List Nat) (thr : Int) (cn tn : Nat)
    (ds : List SD) (htn : tn ≠ 0) :
    sort_voting_winners quant mult km thr cn tn ds =
      (let ti := (List.foldl (svStep quant mult) (0, vecResize vecEmpty cn 0, [], fun _ _ => 0) ds).2.1
       (enumerateL (km (svMatrix quant mult thr cn ds)).2).filterMap (fun (p : Nat × Nat) =>
          if decide (vecGet ti p.1 > 0) && decide (vecGet ti p.2 > 0) then some (vecGet ti p.1, [vecGet ti p.2]) else none)) := by
  rw [gen_sort_voting, if_neg htn]
  simp only [foldl_diag_snd]
  rfl

/-- non-vacuity: a two-candidate, two-track stream is well-formed for `candidate_num = 2` -/
example : okRun (fun _ => 1) 1 2 ⟨[], [], fun _ _ => 0⟩ [⟨101, 7, some 5⟩, ⟨102, 7, some 3⟩, ⟨101, 8, some 4⟩] := by
  simp [okRun, absStep]

end SimVerif.Tie
