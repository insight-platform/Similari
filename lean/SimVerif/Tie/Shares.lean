import SimVerif.Gen.LShares
/-!
# Tie (DESIGN.md 14.15): the own-area shares of a call's detections

`Gen/LShares.lean` holds the statements of `VisualSort::predict_with_scene` and of the per-scene loop of
`BatchVisualSort::predict` that compute `percentages` (statement snippets). C04 says a scene's grouping does not depend on
other scenes; the own-area share of a detection (which gates the use and the collection of its feature, C12 / C13) is
therefore to be computed among the boxes **of its own scene and call**: the shares are `shares boxes (ownAreas boxes)` for
`boxes` = the boxes of exactly the observations of this call (batch: of this scene of the batch), in order, and only when the
sum of the two own-area thresholds is positive (otherwise no shares are computed and none is attached).
-/
namespace SimVerif.Tie
open SimVerif.Gen.L

variable {B P : Type}

theorem tie_visual_call_shares (ownAreas : List B → List P) (shares : List B → List P → List Rat) (collect use : Rat) (obs : List (VObsIn B)) :
    visual_call_shares ownAreas shares collect use obs =
      (decide (collect + use > 0),
       if collect + use > 0 then shares (obs.map (·.bounding_box)) (ownAreas (obs.map (·.bounding_box))) else []) := by
  unfold visual_call_shares
  by_cases h : collect + use > 0 <;> simp [h]

theorem batch_scene_shares_eq_simple (ownAreas : List B → List P) (shares : List B → List P → List Rat) (collect use : Rat) (obs : List (VObsIn B)) :
    batch_visual_scene_shares ownAreas shares collect use obs = visual_call_shares ownAreas shares collect use obs :=
  rfl

theorem tie_batch_visual_scene_shares (ownAreas : List B → List P) (shares : List B → List P → List Rat) (collect use : Rat) (obs : List (VObsIn B)) :
    batch_visual_scene_shares ownAreas shares collect use obs =
      (decide (collect + use > 0),
       if collect + use > 0 then shares (obs.map (·.bounding_box)) (ownAreas (obs.map (·.bounding_box))) else []) :=
  tie_visual_call_shares ownAreas shares collect use obs

end SimVerif.Tie
