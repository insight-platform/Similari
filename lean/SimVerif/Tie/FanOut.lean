import SimVerif.Gen.LFanOut
import SimVerif.Lemmas.List
import Mathlib.Data.List.Basic
/-!
# Tie (DESIGN.md 14.15): what `TrackStore` sends to its executors

`Gen/LFanOut.lean` is regenerated on every run from `track/store.rs`. `send` appends the message to a log of (executor, message);
the channels themselves are not modelled. `Props/C10s.lean` feeds the pairs of `tie_store_foreign_fanout` to
`C10_schedule_independent`.
-/
namespace SimVerif.Tie
open SimVerif.Gen.L SimVerif.ListFacts

/-- **the fan-out of `foreign_track_distances`**: every candidate, in order, goes to every executor; the collectors are told to
expect one chunk per pair -/
theorem tie_store_foreign_fanout {T : Type} (execs : List (Nat × Unit)) (sent : List (Nat × T × Nat × Bool)) (tracks : List T)
    (fc : Nat) (ob : Bool) :
    store_foreign_fanout execs sent tracks fc ob =
      (sent ++ tracks.flatMap (fun t => execs.map (fun e => (e.1, t, fc, ob))),
       execs.length * tracks.length, execs.length * tracks.length) := by
  unfold store_foreign_fanout
  simp only []
  congr 1
  refine foldl_append_flatMap _ _ (fun acc t => ?_) tracks sent
  rw [List.map_eq_flatMap]
  exact foldl_append_flatMap _ _ (fun _ _ => rfl) execs acc

/-- **`owned_track_distances` collects its candidates from the store**: the stored track of every given id that is present, in
the order of the ids (ids not in the store are skipped); the store itself is only read -/
theorem tie_store_owned_candidates {T DB : Type} (shardOf : DB → Nat → List (Nat × T)) (db : DB) (ids : List Nat) :
    store_owned_candidates shardOf db ids = ids.filterMap (fun i => mapGet (shardOf db i) i) := by
  unfold store_owned_candidates
  simp only []
  rw [List.filterMap_eq_flatMap_toList]
  refine (foldl_append_flatMap _ _ (fun acc i => ?_) ids []).trans (List.nil_append _)
  cases mapGet (shardOf db i) i <;> simp

/-- **`merge_external` routes one `Merge` command to the executor of the destination id** (`get_executor`, tied in
`Tie/StoreMap.lean` to `id % num_shards`), carrying the destination, the source track, the class list — empty when `None` was
given, which the worker reads as "all classes of the source" — and the merge-history flag -/
theorem tie_store_merge_external_send {T : Type} (getExecutor : Nat → Nat) (sent : List (Nat × Nat × T × List Nat × Bool))
    (dest : Nat) (src : T) (classes : Option (List Nat)) (mh : Bool) :
    store_merge_external_send getExecutor sent dest src classes mh =
      sent ++ [(getExecutor dest, dest, src, classes.getD [], mh)] := by
  cases classes <;> rfl

end SimVerif.Tie
