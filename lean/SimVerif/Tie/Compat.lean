import SimVerif.Gen.LCompat
import SimVerif.Model.Tracker
/-!
# Tie (DESIGN.md 14.8): `TrackAttributes::compatible` of `SortAttributes` and `VisualAttributes`
(`SimVerif.Gen.L.*_compatible`, regenerated on every run) = the admissibility rule of the tracker model (`Tracker.entryOk`:
same scene, epoch gap within `max_idle_epochs`) conjoined with the constraint table's verdict (C03 never-continued, C04
scene isolation, C20 constraints only remove pairs). The centre distance the table is asked about is a free parameter
(`centerDist`) of the generated functions, and the two `predicted_boxes.back().unwrap()` of the source are read as `()`: that
the distance is the one between the last predicted boxes, and the panic on an empty predicted history, are in no statement here.
-/
namespace SimVerif.Tie
open SimVerif.Gen.L

theorem tie_sort_compatible (cs : List (Nat × Rat)) (maxIdle s1 s2 l1 l2 : Nat) (d : Rat) :
    sort_compatible cs maxIdle s1 s2 l1 l2 d =
      (decide (s1 = s2) && decide (Int.natAbs ((l1 : Int) - (l2 : Int)) ≤ maxIdle) &&
        constraints_validate cs (Int.natAbs ((l1 : Int) - (l2 : Int))) d) := by
  unfold sort_compatible
  by_cases h : s1 = s2 <;> simp [h]

theorem tie_visual_compatible (cs : List (Nat × Rat)) (maxIdle s1 s2 l1 l2 : Nat) (d : Rat) :
    visual_compatible cs maxIdle s1 s2 l1 l2 d = sort_compatible cs maxIdle s1 s2 l1 l2 d := rfl

/-- `he`: the candidate of a predict call carries the scene's current epoch, which is not before the track's last update -/
theorem tie_compatible_live (cs : List (Nat × Rat)) (cfg : Tracker.Cfg) (t : Tracker.Trk) (scene e : Nat) (d : Rat)
    (he : t.lastUpd ≤ e) :
    sort_compatible cs cfg.maxIdle scene t.scene e t.lastUpd d =
      ((t.scene == scene && decide (e - t.lastUpd ≤ cfg.maxIdle)) && constraints_validate cs (e - t.lastUpd) d) := by
  rw [tie_sort_compatible]
  have hn : Int.natAbs ((e : Int) - (t.lastUpd : Int)) = e - t.lastUpd := by omega
  rw [hn]
  by_cases hs : scene = t.scene
  · subst hs; simp
  · have : ¬ t.scene = scene := fun h => hs h.symm
    simp [hs, this]

theorem tie_compatible_entryOk (cs : List (Nat × Rat)) (cfg : Tracker.Cfg) (st : Tracker.St) (x : Tracker.Entry) (t : Tracker.Trk)
    (hf : Tracker.findLive st x.tid = some t) (scene e : Nat) (d : Rat) (he : t.lastUpd ≤ e) :
    sort_compatible cs cfg.maxIdle scene t.scene e t.lastUpd d =
      (Tracker.entryOk cfg st scene e x && constraints_validate cs (e - t.lastUpd) d) := by
  rw [tie_compatible_live cs cfg t scene e d he, Tracker.entryOk, hf]

theorem tie_compatible_no_constraints (cfg : Tracker.Cfg) (t : Tracker.Trk) (scene e : Nat) (d : Rat) (he : t.lastUpd ≤ e) :
    sort_compatible [] cfg.maxIdle scene t.scene e t.lastUpd d = (t.scene == scene && decide (e - t.lastUpd ≤ cfg.maxIdle)) := by
  rw [tie_compatible_live [] cfg t scene e d he]
  simp [constraints_validate]

/-- constraints only remove pairs: a compatible pair is compatible without the table -/
theorem tie_compatible_only_removes (cs : List (Nat × Rat)) (maxIdle s1 s2 l1 l2 : Nat) (d : Rat)
    (h : sort_compatible cs maxIdle s1 s2 l1 l2 d = true) : sort_compatible [] maxIdle s1 s2 l1 l2 d = true := by
  rw [tie_sort_compatible] at h ⊢
  simp only [Bool.and_eq_true] at h ⊢
  exact ⟨h.1, by simp [constraints_validate]⟩

end SimVerif.Tie
