import SimVerif.Gen.LBatchReq
import SimVerif.Tie.Map
import Mathlib.Data.List.Induction
import SimVerif.Lemmas.List
/-!
# Tie (DESIGN.md 14.15): `PredictionBatchRequest::add` groups the detections of a batch per scene

C06 says a batch delivers *one result per scene it contains, each with one record per detection in order*: what a batch
"contains" is built by `add` (`Gen.L.batch_request_add`, from `trackers/batch.rs`). The theorems speak of every sequence of
`add(scene, elt)` calls on a new request (`addAll`).
-/
namespace SimVerif.Tie
open SimVerif.Gen.L

variable {T : Type}

def addStep (st : List (Nat × List T) × Nat) (x : Nat × T) : List (Nat × List T) × Nat :=
  ((batch_request_add st.1 st.2 x.1 x.2).2.1, (batch_request_add st.1 st.2 x.1 x.2).2.2)

def addAll (l : List (Nat × T)) : List (Nat × List T) × Nat := l.foldl addStep ([], 0)

theorem addStep_batch (st : List (Nat × List T) × Nat) (x : Nat × T) :
    (addStep st x).1 = mapSet st.1 x.1 ((mapGet st.1 x.1).getD [] ++ [x.2]) := by
  unfold addStep batch_request_add
  cases mapGet st.1 x.1 <;> rfl

theorem addStep_size (st : List (Nat × List T) × Nat) (x : Nat × T) :
    (addStep st x).2 = (addStep st x).1.length := by
  unfold addStep batch_request_add
  cases mapGet st.1 x.1 <;> rfl

/-- **the entry of a scene: what was added for it, in order** -/
theorem tie_batch_get (l : List (Nat × T)) (s : Nat) :
    mapGet (addAll l).1 s =
      (if (l.filter (fun x => x.1 == s)) = [] then none else some ((l.filter (fun x => x.1 == s)).map (·.2))) :=
  mapGet_foldl_push (·.1) (·.1) (·.2) addStep addStep_batch l ([], 0) s

/-- **one entry per scene; `batch_size` counts them** -/
theorem tie_batch_size (l : List (Nat × T)) :
    (addAll l).2 = (addAll l).1.length ∧ ((addAll l).1.map (·.1)).Nodup ∧ (l = [] → (addAll l).2 = 0) := by
  unfold addAll
  induction l using List.reverseRecOn with
  | nil => simp
  | append_singleton l x ih =>
    rw [List.foldl_append, List.foldl_cons, List.foldl_nil]
    refine ⟨addStep_size _ _, ?_, by simp⟩
    rw [addStep_batch, mapSet_keys]
    split
    · exact ih.2.1
    · rename_i hk
      exact ListFacts.nodup_snoc _ _ ih.2.1 hk

/-- non-vacuity: scenes 7, 3, 7 — two entries, scene 7 holds its two elements in order -/
example : addAll [(7, "a"), (3, "b"), (7, "c")] = ([(7, ["a", "c"]), (3, ["b"])], 2) := by decide

end SimVerif.Tie
