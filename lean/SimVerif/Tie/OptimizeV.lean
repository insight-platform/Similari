import SimVerif.Gen.KOptimizeV
import SimVerif.Tie.Optimize
import SimVerif.Tie.VMetric
/-!
# Tie: `VisualMetric::optimize` and `VisualMetric::metric` whole

`Gen/KOptimizeV.lean` is regenerated on every run from `VisualMetric::optimize` / `postprocess_distances`
(`trackers/visual_sort/metric.rs`), the constructors and accessors of `VisualObservationAttributes`, and a second reading of
the trait default method `make_prediction` through the accessors of `impl TrackAttributesKalmanPrediction for VisualAttributes`.
`optimize_observations` (the gallery step) is a parameter here; it is generated and tied on its own (`Gen/LGallery.lean`,
`Tie/Gallery.lean`).
-/
set_option linter.unusedSectionVars false
namespace SimVerif.Tie
open SimVerif.Kalman SimVerif.C07 SimVerif.Gen.K SimVerif.Geom Matrix

variable {α : Type} [Field α] [LinearOrder α]

/-- `make_prediction` through the accessors of `VisualAttributes`; by `rfl` this is `kalmanStep` on the `SortAttributes` with
the same state and weights -/
def kalmanStepV {F : Type} (solveLower : {r c : Type} → [Fintype r] → [DecidableEq r] → Matrix r r α → Matrix r c α → Matrix r c α)
    (dt : α) (a : VAttrs α F) (z : CBox α) : KState α :=
  box_update solveLower box_update_matrix a.position_weight
    (box_predict (box_motion_matrix dt) a.position_weight a.velocity_weight
      (a.state.getD (box_initiate a.position_weight a.velocity_weight (toU z)))) (toU z)

theorem tie_vmake_prediction {F : Type} (solveLower : {r c : Type} → [Fintype r] → [DecidableEq r] → Matrix r r α → Matrix r c α → Matrix r c α)
    (dt : α) (a : VAttrs α F) (z : CBox α) :
    vmake_prediction solveLower dt a z =
      some ({ a with state := some (kalmanStepV solveLower dt a z) },
            { boxOfState (kalmanStepV solveLower dt a z) with conf := z.conf }) := by
  obtain ⟨pb, ob, of_, tl, vc, st, pw, vw, hl⟩ := a
  cases st <;>
    simp only [vmake_prediction, kalmanStepV, vattr_get_state, vattr_get_position_weight, vattr_get_velocity_weight,
      vattr_set_state, tie_kstate_to_box, Option.getD_none, Option.getD_some]

/-- the collect gate on a merge; by `rfl` this is `Gen.K.v_collect_gate … (toU z) …` (`Tie/VMetric.lean`) -/
def gatedFeature {F : Type} (minArea qCollect ownCollect : α) (isMerge : Bool) (z : CBox α) (q : α) (own : Option α) (f : Option F) : Option F :=
  if isMerge && !(v_feature_can_be_used minArea (some (toU z)) q qCollect own ownCollect) then none else f

def storedObs {F : Type} (cos sin : α → α) (kind : PosMetric α) (pb : CBox α) (q : α) (own : Option α) (f : Option F) : Option (VOA α) × Option F :=
  (some { bbox := some (storedBox cos sin kind pb), visual_quality := q, own_area_percentage := own }, f)

/-- **`VisualMetric::optimize`** on observations ending in the new one `(some ⟨some z, q, own⟩, f)`:
the filter state is the Kalman step on `z`; the three histories are pushed (the feature history gets the feature **as
submitted**, before the gate); the gallery is `optimize_observations` of the older observations, then the new observation —
estimated box, gated feature — swapped to the front; the collected-feature count is recounted.
`h1`, `h2`: the source tests `observed_boxes.len()` only and pushes the three histories together -/
theorem tie_visual_optimize {F : Type} (solveLower : {r c : Type} → [Fintype r] → [DecidableEq r] → Matrix r r α → Matrix r c α → Matrix r c α)
    (dt : α) (cos sin : α → α) (kind : PosMetric α) (minArea qCollect ownCollect : α)
    (optObs : List (Option (VOA α) × Option F) → List (Option (VOA α) × Option F)) (isMerge : Bool)
    (a : VAttrs α F) (pre : List (Option (VOA α) × Option F)) (z : CBox α) (q : α) (own : Option α) (f : Option F)
    (h1 : a.observed_boxes.length = a.predicted_boxes.length) (h2 : a.observed_boxes.length = a.observed_features.length) :
    visual_optimize solveLower dt cos sin kind minArea qCollect ownCollect optObs isMerge a
        (pre ++ [(some { bbox := some z, visual_quality := q, own_area_percentage := own }, f)]) =
      (let s' := kalmanStepV solveLower dt a z
       let pb : CBox α := { boxOfState s' with conf := z.conf }
       let new := storedObs cos sin kind pb q own (gatedFeature minArea qCollect ownCollect isMerge z q own f)
       let gallery := SimVerif.Gen.L.listSwap (optObs pre ++ [new]) 0 ((optObs pre ++ [new]).length - 1)
       some ({ a with state := some s', track_length := a.track_length + 1,
                      observed_boxes := pushB a.observed_boxes z a.history_length,
                      predicted_boxes := pushB a.predicted_boxes pb a.history_length,
                      observed_features := pushB a.observed_features f a.history_length,
                      visual_features_collected_count := (gallery.filter (fun o => o.2.isSome)).length },
             gallery)) := by
  unfold visual_optimize
  simp only [List.getLast?_concat, voa_unchecked_bbox_ref, voa_visual_quality,
    voa_own_area_percentage_opt, tie_vmake_prediction, List.dropLast_concat]
  simp only [visual_update_history_eq _ _ _ _ _ _ _ _ h1 h2, applyHistV, Option.map_some]
  -- left: gating the observation and rebuilding it with `voa_new` / `voa_with_own_area_percentage` is
  -- `storedObs … (gatedFeature …)`; the source matches on the gate, the kind and the share, and each case is `rfl`
  unfold gatedFeature storedObs storedBox voa_with_own_area_percentage voa_new
  rcases Bool.eq_false_or_eq_true (v_feature_can_be_used minArea (some (toU z)) q qCollect own ownCollect) with hg | hg <;>
    simp only [hg, Bool.not_true, Bool.not_false, Bool.and_false, Bool.and_true, Bool.false_eq_true, ↓reduceIte] <;>
    cases kind <;> cases own <;> cases isMerge <;> rfl

/-- `optimize` panics without a last observation, or without a box in its attributes (an observation without attributes
is a panic as well; that case is not stated) -/
theorem visual_optimize_empty {F : Type} (solveLower : {r c : Type} → [Fintype r] → [DecidableEq r] → Matrix r r α → Matrix r c α → Matrix r c α)
    (dt : α) (cos sin : α → α) (kind : PosMetric α) (minArea qCollect ownCollect : α)
    (optObs : List (Option (VOA α) × Option F) → List (Option (VOA α) × Option F)) (isMerge : Bool) (a : VAttrs α F) :
    visual_optimize solveLower dt cos sin kind minArea qCollect ownCollect optObs isMerge a [] = none := rfl

theorem visual_optimize_nobox {F : Type} (solveLower : {r c : Type} → [Fintype r] → [DecidableEq r] → Matrix r r α → Matrix r c α → Matrix r c α)
    (dt : α) (cos sin : α → α) (kind : PosMetric α) (minArea qCollect ownCollect : α)
    (optObs : List (Option (VOA α) × Option F) → List (Option (VOA α) × Option F)) (isMerge : Bool) (a : VAttrs α F)
    (pre : List (Option (VOA α) × Option F)) (q : α) (own : Option α) (f : Option F) :
    visual_optimize solveLower dt cos sin kind minArea qCollect ownCollect optObs isMerge a
      (pre ++ [(some { bbox := none, visual_quality := q, own_area_percentage := own }, f)]) = none := by
  unfold visual_optimize
  simp only [List.getLast?_concat, voa_unchecked_bbox_ref]

/-- `optimize_tail` of `Gen/LGallery.lean` written out: the same swap and recount as in `tie_visual_optimize`. The statement
mentions neither `visual_optimize` nor `galleryUpdate`: no theorem puts `optimize_observations` for `optObs` there or carries
its observations to the `GE` entries of `tie_gallery_update` -/
theorem visual_optimize_tail {Obs φ : Type} (featureOf : Obs → Option φ) (dropBbox : Obs → Obs) (quality : Obs → Rat) (maxObs : Nat)
    (pre : List Obs) (new : Obs) (c : Nat) :
    SimVerif.Gen.L.optimize_tail featureOf dropBbox quality maxObs pre new c =
      (let g := SimVerif.Gen.L.listSwap (SimVerif.Gen.L.optimize_observations featureOf dropBbox quality maxObs pre ++ [new]) 0
          ((SimVerif.Gen.L.optimize_observations featureOf dropBbox quality maxObs pre ++ [new]).length - 1)
       (g, (g.filter (fun o => (featureOf o).isSome)).length)) := rfl

theorem tie_visual_postprocess {M : Type} (l : List (MOk M)) :
    visual_postprocess_distances l = l.filter (fun r => r.feature_distance.isSome || r.attribute_metric.isSome) := rfl

/-- **`VisualMetric::metric`** on a candidate observation `⟨cb, q, own⟩ / cf` and a track observation `⟨tb, …⟩ / tf`:
the positional part is `positional_metric` of the two boxes (tied to `SortMetric`'s rules in `Tie/VMetric.lean`), whatever
the features; the appearance part exists **only if** the candidate's feature may be used (box area, quality, own-area share at
or above the *use* thresholds — `featureCanBeUsed` —, the candidate's box present), both observations carry a feature, and the
track has collected enough features (`visualMetric`); then it is the kind's weight of the feature distance -/
theorem tie_visual_metric_whole {F : Type} (toofar : UBox α → UBox α → Bool) (inter : UBox α → UBox α → α) (kfdist : α × α → UBox α → α)
    (chi : Nat → α) (upper : α) (euclidean cosine : F → F → α) (pk : PosMetric α) (vk : VisualMetric.Kind α)
    (minConf minArea qUse ownUse : α) (minLen collected : Nat) (wp wv : α)
    (cb : CBox α) (q : α) (own : Option α) (cf : Option F) (tv : VOA α) (tf : Option F) :
    visual_metric_whole toofar inter kfdist chi upper euclidean cosine pk vk minConf minArea qUse ownUse minLen collected wp wv
        (some { bbox := some cb, visual_quality := q, own_area_percentage := own }, cf) (some tv, tf) =
      some (v_positional_metric toofar inter kfdist chi upper pk minConf (some (toU cb)) (tv.bbox.map toU) wp wv,
            if VisualMetric.featureCanBeUsed minArea (Geom.area (toU cb)) q qUse own ownUse then
              (match cf, tf with
               | some c, some t => VisualMetric.visualMetric vk minLen collected
                   (match vk with | .euclid _ => euclidean c t | .cosine _ => cosine c t)
               | _, _ => none)
            else none) := by
  unfold visual_metric_whole
  simp only [voa_visual_quality, voa_own_area_percentage_opt, Option.map_some, tie_v_feature_can_be_used]
  -- `v_visual_metric` occurs only where both features are present
  cases cf with
  | none => rfl
  | some c => cases tf with
    | none => rfl
    | some t => simp only [tie_v_visual_metric]; rfl

/-- a candidate observation without attributes is a panic (`expect`); the track side is not stated -/
theorem visual_metric_whole_noattr {F : Type} (toofar : UBox α → UBox α → Bool) (inter : UBox α → UBox α → α) (kfdist : α × α → UBox α → α)
    (chi : Nat → α) (upper : α) (euclidean cosine : F → F → α) (pk : PosMetric α) (vk : VisualMetric.Kind α)
    (minConf minArea qUse ownUse : α) (minLen collected : Nat) (wp wv : α) (cf : Option F) (trk : Option (VOA α) × Option F) :
    visual_metric_whole toofar inter kfdist chi upper euclidean cosine pk vk minConf minArea qUse ownUse minLen collected wp wv
        (none, cf) trk = none := rfl

end SimVerif.Tie
