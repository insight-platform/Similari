import SimVerif.Gen.KDist
import SimVerif.Tie.Radius
import Mathlib.Tactic.LinearCombination
/-!
# Tie (DESIGN.md 14.8): `dist_in_2r` of `/repo/src/utils/bbox.rs` (`SimVerif.Gen.K.dist_in_2r`,
regenerated on every run) = the model's `dist2rSq` (C20). The four positivity `assert!`s of `dist_in_2r` are not hypotheses of
`tie_dist_in_2r_sq`.
-/
namespace SimVerif.Tie
open SimVerif.Geom
variable {α : Type} [Field α] [LinearOrder α]

theorem tie_dist_in_2r (sqrt : α → α) (eps : α) (l r : UBox α) :
    Gen.K.dist_in_2r sqrt eps l r =
      sqrt ((l.xc - r.xc) * (l.xc - r.xc) + (l.yc - r.yc) * (l.yc - r.yc)) /
        sqrt ((sqrt (radiusSq l) + sqrt (radiusSq r)) * (sqrt (radiusSq l) + sqrt (radiusSq r)) + eps) := by
  unfold Gen.K.dist_in_2r
  simp only [tie_get_radius]

/-- the square of `dist_in_2r` is the model's `dist2rSq` for every `sqrt` that squares back on
non-negative arguments (`√A·√B` is the `sqrtAB` the model is given): `Real.sqrt` over ℝ is one, no function over ℚ is, so the
tie is about the square and about fields with exact roots. `hs0` is not used. -/
theorem tie_dist_in_2r_sq [IsStrictOrderedRing α] (sqrt : α → α)
    (hs : ∀ x, 0 ≤ x → sqrt x * sqrt x = x) (hs0 : ∀ x, 0 ≤ sqrt x) (eps : α) (heps : 0 < eps) (l r : UBox α)
    (hl : 0 ≤ radiusSq l) (hr : 0 ≤ radiusSq r) :
    Gen.K.dist_in_2r sqrt eps l r * Gen.K.dist_in_2r sqrt eps l r =
      dist2rSq eps (sqrt (radiusSq l) * sqrt (radiusSq r)) l r := by
  rw [tie_dist_in_2r, div_mul_div_comm, hs _ (add_nonneg (mul_self_nonneg _) (mul_self_nonneg _)),
    hs _ (add_nonneg (mul_self_nonneg _) heps.le)]
  congr 1
  rw [two_eq]
  linear_combination hs _ hl + hs _ hr

end SimVerif.Tie
