import SimVerif.Lemmas.TrackerScene
import Mathlib.Data.List.Nodup
/-!
# A scene step on two states that differ in what has been collected

`Inv q a b`: the two states agree on the tracks satisfying `q` (the unexpired ones) and hold the same tracks
overall (live ++ wasted, as multisets). `sceneStep_gc` is `sceneStep_view` for the view `q` and `sceneStep_frame`
for the rest, whatever the validity test and the id discipline. For the batch trackers the relation carried through
the scenes of one batch is `BRel` (second half of the file).
-/
namespace SimVerif.C03
open SimVerif.Tracker List

/-- two states that agree on the `q`-tracks of `live` (in order), on the id counter and on the
multiset of all tracks held; ids unique and bounded by the counter -/
structure Inv (q : Trk → Bool) (a b : St) : Prop where
  nid : a.nextId = b.nextId
  live : a.live.filter q = b.live.filter q
  perm : a.live ++ a.wasted ~ b.live ++ b.wasted
  nd : ((a.live ++ a.wasted).map (·.id)).Nodup
  bd : ∀ t ∈ a.live ++ a.wasted, t.id ≤ a.nextId

theorem Inv.symm {q : Trk → Bool} {a b : St} (h : Inv q a b) : Inv q b a where
  nid := h.nid.symm
  live := h.live.symm
  perm := h.perm.symm
  nd := ((h.perm.map (·.id)).nodup_iff).mp h.nd
  bd := fun t ht => by rw [← h.nid]; exact h.bd t (h.perm.mem_iff.mpr ht)

theorem Inv.trans {q : Trk → Bool} {a b c : St} (h1 : Inv q a b) (h2 : Inv q b c) : Inv q a c where
  nid := h1.nid.trans h2.nid
  live := h1.live.trans h2.live
  perm := h1.perm.trans h2.perm
  nd := h1.nd
  bd := h1.bd

theorem Inv.mono {q q' : Trk → Bool} {a b : St} (h : Inv q a b) (hq : ∀ t, q' t = true → q t = true) :
    Inv q' a b where
  nid := h.nid
  live := by rw [ListFacts.filter_filter_of_imp q q' a.live hq, ListFacts.filter_filter_of_imp q q' b.live hq, h.live]
  perm := h.perm
  nd := h.nd
  bd := h.bd

theorem Inv.nd_live {q : Trk → Bool} {a b : St} (h : Inv q a b) : (a.live.map (·.id)).Nodup := by
  have := h.nd
  rw [map_append] at this
  exact this.of_append_left

/-- `hb` is not used: this is `Tracker.applyPick_cont_none` -/
theorem applyPick_cont_none (cfg : Cfg) (hb : cfg.batchIds = false) (scene e : Nat) (st : St) (d : Det)
    (tid : Nat) (vis : Bool) (hf : findLive st tid = none) :
    applyPick cfg scene e st d (.cont tid vis) = none :=
  Tracker.applyPick_cont_none cfg scene e st d tid vis hf

end SimVerif.C03

namespace SimVerif.Tracker
open SimVerif.C01 SimVerif.C03 List

/-- a call that may fail, simulated in one direction for a symmetric relation: from related states it fails on
both sides or succeeds on both, with the same answer and related states -/
theorem both_of_sim {α : Type} {R : St → St → Prop} (hsymm : ∀ {a b}, R a b → R b a) (f : St → Option (St × α))
    (hsim : ∀ a b, R a b → ∀ a' r, f a = some (a', r) → ∃ b', f b = some (b', r) ∧ R a' b') {a b : St} (h : R a b) :
    (f a = none ∧ f b = none) ∨ ∃ a' b' r, f a = some (a', r) ∧ f b = some (b', r) ∧ R a' b' := by
  cases ha : f a with
  | some x =>
    obtain ⟨b', hb', hr⟩ := hsim a b h x.1 x.2 ha
    exact Or.inr ⟨x.1, b', x.2, rfl, hb', hr⟩
  | none =>
    cases hb : f b with
    | some y =>
      obtain ⟨a', ha', _⟩ := hsim b a (hsymm h) y.1 y.2 hb
      rw [ha] at ha'
      cases ha'
    | none => exact Or.inl ⟨rfl, rfl⟩

theorem perm_append_iff_of_filter_eq {q : Trk → Bool} {la lb wa wb : List Trk} (hl : la.filter q = lb.filter q) :
    la ++ wa ~ lb ++ wb ↔ la.filter (fun t => !q t) ++ wa ~ lb.filter (fun t => !q t) ++ wb := by
  have ha := (filter_append_perm q la).append_right wa
  have hb := (filter_append_perm q lb).append_right wb
  rw [append_assoc] at ha hb
  rw [hl] at ha
  exact ⟨fun hp => (perm_append_left_iff _).mp (ha.trans (hp.trans hb.symm)),
    fun hp => ha.symm.trans ((hp.append_left _).trans hb)⟩

/-- `sceneStep_view` for the view "unexpired at the scene's new epoch", and `sceneStep_frame` for the rest: if B's
id check accepts the call, B takes the step A takes with the same records, and the two agree again. -/
theorem sceneStep_gc (cfg : Cfg) (scene : Nat) {valid : St → Nat → Bool} {dets : List Det} {picks : List Pick}
    (hvalid : SceneValid cfg scene picks valid) (a b : St) (hep : a.epochs = b.epochs)
    (hl : a.live.filter (fun t => !expired cfg (setEpoch a scene (epochOf a scene + 1)) t) =
      b.live.filter (fun t => !expired cfg (setEpoch a scene (epochOf a scene + 1)) t))
    (hpm : a.live ++ a.wasted ~ b.live ++ b.wasted)
    (hna : (a.live.map (·.id)).Nodup) (hnb : (b.live.map (·.id)).Nodup) (lo hi : Nat)
    (hfB : freshIdsOk cfg (setEpoch b scene (epochOf b scene + 1)) lo hi picks = true)
    (a' : St) (recs : List Rec) (ha : sceneStep cfg valid a scene dets picks lo hi = some (a', recs)) :
    ∃ b', sceneStep cfg valid b scene dets picks lo hi = some (b', recs) ∧
      a'.epochs = (setEpoch a scene (epochOf a scene + 1)).epochs ∧ b'.epochs = a'.epochs ∧
      a'.live.filter (fun t => !expired cfg (setEpoch a scene (epochOf a scene + 1)) t) =
        b'.live.filter (fun t => !expired cfg (setEpoch a scene (epochOf a scene + 1)) t) ∧
      a'.live ++ a'.wasted ~ b'.live ++ b'.wasted := by
  have heb : epochOf a scene = epochOf b scene := epochOf_congr a b hep scene
  generalize hq : (fun t => !expired cfg (setEpoch a scene (epochOf a scene + 1)) t) = q at hl ⊢
  have hq1 : ∀ t : Trk, t.scene = scene → (epochOf a scene + 1) - t.lastUpd ≤ cfg.maxIdle → q t = true := by
    intro t hs hg
    rw [← hq]
    show (!expired cfg _ t) = true
    rw [unexpired_setEpoch_of_gate cfg a scene _ t hs hg]
    rfl
  have hn1 : ∀ t : Trk, t.scene = scene → (epochOf a scene + 1) - t.lastUpd ≤ cfg.maxIdle → (!q t) = false :=
    fun t hs hl => by rw [hq1 t hs hl]; rfl
  obtain ⟨b', hb', hl'⟩ := sceneStep_view cfg scene q ViewRel.eq hvalid a b heb hq1 hl.symm hna hnb lo hi hfB a' recs ha
  have fa := sceneStep_frame cfg scene (fun t => !q t) hvalid a a' hn1 hna lo hi recs ha
  have fb := sceneStep_frame cfg scene (fun t => !q t) hvalid b b' (heb ▸ hn1) hnb lo hi recs hb'
  have ea := congrArg St.epochs (sceneStep_fields ha)
  have eb := congrArg St.epochs (sceneStep_fields hb')
  have wa : a'.wasted = a.wasted := (congrArg St.wasted (sceneStep_fields ha) :)
  have wb : b'.wasted = b.wasted := (congrArg St.wasted (sceneStep_fields hb') :)
  refine ⟨b', hb', ea, ?_, hl'.symm, ?_⟩
  · rw [ea, eb, ← heb]
    show b.epochs.filter _ ++ _ = a.epochs.filter _ ++ _
    rw [hep]
  · -- unexpired tracks: the same list; the others and the collected ones: as before the step
    rw [perm_append_iff_of_filter_eq hl'.symm, fa, fb, wa, wb]
    exact (perm_append_iff_of_filter_eq hl).mp hpm

/-- a scene step keeps the ids held (live and collected) distinct and below `B`, if the fresh ids are distinct, new and below `B` -/
theorem sceneStep_ids {cfg : Cfg} {valid : St → Nat → Bool} {a a' : St} {scene : Nat} {dets : List Det}
    {picks : List Pick} {lo hi : Nat} {recs : List Rec}
    (ha : sceneStep cfg valid a scene dets picks lo hi = some (a', recs)) (B : Nat)
    (nd : ((a.live ++ a.wasted).map (·.id)).Nodup) (bd : ∀ t ∈ a.live ++ a.wasted, t.id ≤ B)
    (hfn : (freshIds picks).Nodup) (hfd : ∀ i ∈ freshIds picks, i ∉ (a.live ++ a.wasted).map (·.id))
    (hfb : ∀ i ∈ freshIds picks, i ≤ B) :
    ((a'.live ++ a'.wasted).map (·.id)).Nodup ∧ ∀ t ∈ a'.live ++ a'.wasted, t.id ≤ B := by
  have hw : a'.wasted = a.wasted := (congrArg St.wasted (sceneStep_fields ha) :)
  have ids := applyPicks_liveIds (sceneStep_parts ha).2.2
  have hids : (a'.live ++ a'.wasted).map (·.id) ~ (a.live ++ a.wasted).map (·.id) ++ freshIds picks := by
    rw [map_append, map_append, ids, hw, append_assoc, append_assoc]
    exact Perm.append_left _ perm_append_comm
  refine ⟨hids.nodup_iff.mpr (nodup_append.mpr ⟨nd, hfn, fun x hx y hy hxy => hfd y hy (hxy ▸ hx)⟩), fun t ht => ?_⟩
  rcases mem_append.mp (hids.mem_iff.mp (mem_map_of_mem ht)) with h | h
  · obtain ⟨t0, ht0, e0⟩ := mem_map.mp h
    exact e0 ▸ bd t0 ht0
  · exact hfb _ h

theorem sceneStep_inv (cfg : Cfg) (hb : cfg.batchIds = false) {valid : St → Nat → Bool} {dets : List Det}
    {picks : List Pick} (scene : Nat) (hvalid : SceneValid cfg scene picks valid) (a b : St) (hep : a.epochs = b.epochs)
    (h : Inv (fun t => !expired cfg (setEpoch a scene (epochOf a scene + 1)) t) a b) (a' : St) (recs : List Rec)
    (ha : sceneStep cfg valid a scene dets picks 0 0 = some (a', recs)) :
    ∃ b', sceneStep cfg valid b scene dets picks 0 0 = some (b', recs) ∧
      a'.epochs = (setEpoch a scene (epochOf a scene + 1)).epochs ∧ b'.epochs = a'.epochs ∧
      Inv (fun t => !expired cfg (setEpoch a scene (epochOf a scene + 1)) t) a' b' := by
  obtain ⟨_, hf, hapa⟩ := sceneStep_parts ha
  obtain ⟨b', hb', ea, eb, hl', hp'⟩ := sceneStep_gc cfg scene hvalid a b hep h.live h.perm h.nd_live h.symm.nd_live
    0 0 (freshIdsOk_of cfg _ _ 0 0 picks (fun _ => h.nid) (fun hc => by rw [hb] at hc; cases hc) hf) a' recs ha
  obtain ⟨_, _, hapb⟩ := sceneStep_parts hb'
  have hn' : a'.nextId = a.nextId + (freshIds picks).length := by
    rw [applyPicks_nextId hapa, hb]; rfl
  -- the fresh ids are the next ones after the counter, which bounds every id held
  obtain ⟨hfn, hfm⟩ := consecutive_ids (n := a.nextId) ((freshIdsOk_simple_iff cfg hb _ 0 0 picks).mp hf)
  obtain ⟨nd', bd'⟩ := sceneStep_ids ha a'.nextId h.nd
    (fun t ht => Nat.le_trans (h.bd t ht) (hn' ▸ Nat.le_add_right _ _)) hfn
    (fun i hi hm => by
      obtain ⟨t, ht, rfl⟩ := mem_map.mp hm
      exact Nat.not_lt.mpr (h.bd t ht) (hfm _ hi).1)
    (fun i hi => hn' ▸ (hfm i hi).2)
  refine ⟨b', hb', ea, eb, ?_, hl', hp', nd', bd'⟩
  rw [applyPicks_nextId hapa, applyPicks_nextId hapb]
  exact congrArg (· + _) h.nid

end SimVerif.Tracker

namespace SimVerif.C03
open SimVerif.Tracker List

/-- the state with the id counter overwritten (the counter is only written, never read, by the
picks of a batch tracker; the id bound of `Inv` is kept at the end `hi` of the batch's range) -/
abbrev setN (s : St) (n : Nat) : St := { s with nextId := n }

theorem entryOk_setN (cfg : Cfg) (s : St) (n : Nat) : entryOk cfg (setN s n) = entryOk cfg s := rfl
theorem validChoice_setN (cfg : Cfg) (s : St) (n : Nat) : validChoice cfg (setN s n) = validChoice cfg s := rfl
theorem validVisualChoice_setN (cfg : Cfg) (s : St) (n : Nat) :
    validVisualChoice cfg (setN s n) = validVisualChoice cfg s := rfl

/-- the relation carried through the scenes of one batch: same epochs and counter, agreement on the
unexpired live tracks, the same tracks held overall, ids unique and at most `hi`; collected tracks
are older than the batch (ids at most `lo`) -/
structure BRel (cfg : Cfg) (lo hi : Nat) (a b : St) : Prop where
  ep : a.epochs = b.epochs
  nid : a.nextId = b.nextId
  inv : Inv (fun t => !expired cfg a t) (setN a hi) (setN b hi)
  wa : ∀ t ∈ a.wasted, t.id ≤ lo
  wb : ∀ t ∈ b.wasted, t.id ≤ lo

theorem BRel.symm {cfg : Cfg} {lo hi : Nat} {a b : St} (h : BRel cfg lo hi a b) : BRel cfg lo hi b a := by
  refine ⟨h.ep.symm, h.nid.symm, ?_, h.wb, h.wa⟩
  rw [← expired_congr cfg a b h.ep]
  exact h.inv.symm

end SimVerif.C03

namespace SimVerif.Tracker
open SimVerif.C01 SimVerif.C03 List

theorem sceneStep_brel (cfg : Cfg) (hb : cfg.batchIds = true) (lo hi : Nat) (a b : St) (h : BRel cfg lo hi a b)
    (scene : Nat) {valid : St → Nat → Bool} {dets : List Det} {picks : List Pick}
    (hvalid : SceneValid cfg scene picks valid) (a' : St) (recs : List Rec)
    (ha : sceneStep cfg valid a scene dets picks lo hi = some (a', recs)) :
    ∃ b', sceneStep cfg valid b scene dets picks lo hi = some (b', recs) ∧ BRel cfg lo hi a' b' := by
  obtain ⟨_, hf, hapa⟩ := sceneStep_parts ha
  have hm := h.inv.mono (q' := fun t => !expired cfg (setEpoch a scene (epochOf a scene + 1)) t)
    (unexpired_of_later_epoch cfg a scene _ (Nat.le_succ _))
  -- the fresh ids are held by no live track and larger than the ids of the collected ones, in A and so in B,
  -- whose tracks are among those A holds
  obtain ⟨f1, f2⟩ := (freshIdsOk_batch_iff cfg hb _ lo hi picks).mp hf
  have hda : ∀ i ∈ freshIds picks, i ∉ (a.live ++ a.wasted).map (·.id) := by
    intro i hi hmem
    rw [map_append] at hmem
    rcases mem_append.mp hmem with hmem | hmem
    · exact (f1 i hi).2.2 hmem
    · obtain ⟨t, ht, rfl⟩ := mem_map.mp hmem
      exact Nat.not_lt.mpr (h.wa t ht) (f1 _ hi).1
  have hdb : ∀ i ∈ freshIds picks, i ∉ b.live.map (·.id) := fun i hi hmem => by
    obtain ⟨y, hy, rfl⟩ := mem_map.mp hmem
    exact hda _ hi (mem_map_of_mem (hm.perm.mem_iff.mpr (mem_append_left _ hy)))
  obtain ⟨b', hb', ea, eb, hl', hp'⟩ := sceneStep_gc cfg scene hvalid a b h.ep hm.live hm.perm hm.nd_live hm.symm.nd_live
    lo hi (freshIdsOk_of cfg _ _ lo hi picks (fun hc => by rw [hb] at hc; cases hc)
      (fun _ i hi hmem => absurd hmem (hdb i hi)) hf) a' recs ha
  obtain ⟨_, _, hapb⟩ := sceneStep_parts hb'
  obtain ⟨nd', bd'⟩ := sceneStep_ids ha hi h.inv.nd h.inv.bd f2 hda (fun i hi => (f1 i hi).2.1)
  have wa' : a'.wasted = a.wasted := (congrArg St.wasted (sceneStep_fields ha) :)
  have wb' : b'.wasted = b.wasted := (congrArg St.wasted (sceneStep_fields hb') :)
  refine ⟨b', hb', eb.symm, ?_, ⟨rfl, ?_, hp', nd', bd'⟩, fun t ht => h.wa t (wa' ▸ ht), fun t ht => h.wb t (wb' ▸ ht)⟩
  · rw [applyPicks_nextId hapa, applyPicks_nextId hapb]
    exact congrArg (· + _) h.nid
  · rw [expired_congr cfg a' _ ea]
    exact hl'

def JobsValid (cfg : Cfg) (jobs : List SJob) : Prop := ∀ j ∈ jobs, SceneValid cfg j.scene j.picks j.valid

theorem jobsValid_jobOf (cfg : Cfg) (l : List (Nat × List Det × List Entry × List Pick)) : JobsValid cfg (l.map (jobOf cfg)) := by
  intro j hj
  obtain ⟨x, _, rfl⟩ := mem_map.mp hj
  exact sceneValid_validChoice cfg x.1 x.2.1.length x.2.2.1 x.2.2.2

theorem batchSteps_brel (cfg : Cfg) (hb : cfg.batchIds = true) (lo hi : Nat) (jobs : List SJob) (hj : JobsValid cfg jobs)
    (a b : St) (h : BRel cfg lo hi a b) (a' : St) (out : List (Nat × List Rec))
    (ha : batchSteps cfg lo hi jobs a = some (a', out)) :
    ∃ b', batchSteps cfg lo hi jobs b = some (b', out) ∧ BRel cfg lo hi a' b' := by
  induction jobs generalizing a b out with
  | nil => cases ha; exact ⟨b, rfl, h⟩
  | cons x rest ih =>
    obtain ⟨a1, r, out', h1, h2, rfl⟩ := batchSteps_cons ha
    obtain ⟨b1, hb1, hrel1⟩ := sceneStep_brel cfg hb lo hi a b h x.1 (hj _ mem_cons_self) a1 r h1
    obtain ⟨b2, hb2, hrel2⟩ := ih (fun j hm => hj j (mem_cons_of_mem _ hm)) a1 b1 hrel1 out' h2
    exact ⟨b2, by simp only [batchSteps, hb1, hb2], hrel2⟩

end SimVerif.Tracker
