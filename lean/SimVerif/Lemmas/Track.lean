import SimVerif.Model.Track
/-! `Model/Track.lean`: the observation table read and written by class, and what `addObservation`, `build` and the class loop of
`merge` keep. -/
namespace SimVerif.Track

variable {TA M OA U Q E : Type}

theorem setObs_cons {β : Type} (p : Nat × List β) (obs : List (Nat × List β)) (c : Nat) (v : List β) :
    setObs (p :: obs) c v =
      if p.1 == c then (c, v) :: obs.map (fun q => if q.1 == c then (c, v) else q) else p :: setObs obs c v := by
  unfold setObs
  by_cases hp : (p.1 == c) = true
  · simp [show p.1 = c by simpa using hp]
  · simp only [List.any_cons, Bool.eq_false_iff.mpr hp, Bool.false_or, List.map_cons, Bool.false_eq_true, if_false, List.cons_append]
    split <;> rfl

theorem getObs_setObs {β : Type} (obs : List (Nat × List β)) (c : Nat) (v : List β) : getObs (setObs obs c v) c = some v := by
  induction obs with
  | nil => simp [setObs, getObs]
  | cons p rest ih =>
    rw [setObs_cons]
    split
    · simp [getObs]
    · next hp => simpa [getObs, List.find?_cons, hp] using ih

theorem setObs_setObs {β : Type} (obs : List (Nat × List β)) (c : Nat) (v w : List β) :
    setObs (setObs obs c v) c w = setObs obs c w := by
  induction obs with
  | nil => simp [setObs]
  | cons p rest ih =>
    rw [setObs_cons, setObs_cons]
    split
    · -- overwritten twice: the second value stands
      rw [setObs_cons, if_pos (by simp), List.map_map]
      congr 1
      refine List.map_congr_left fun q _ => ?_
      by_cases hq : q.1 = c <;> simp [hq]
    · next hp => rw [setObs_cons, if_neg hp, ih]

theorem addObservation_id (cb : Cb TA M OA U Q E) (t : Track TA M OA) (cls : Nat) (o : Option OA) (u : Option U) :
    (addObservation cb t cls o u).2.1.id = t.id := by
  unfold addObservation
  cases u with
  | none =>
    cases o with
    | none => rfl
    | some o => dsimp only; split <;> rfl
  | some u =>
    dsimp only
    cases cb.apply u t.attrs with
    | error e => rfl
    | ok a =>
      cases o with
      | none => rfl
      | some o => dsimp only; split <;> rfl

/-- the callbacks with an attribute update that always succeeds with `a`: after a successful update both the source and the
model go on as they would with these -/
def updated (cb : Cb TA M OA U Q E) (a : TA) : Cb TA M OA Unit Q E :=
  { apply := fun _ _ => .ok a, mergeA := cb.mergeA, optimize := cb.optimize, compatible := cb.compatible, baked := cb.baked,
    metric := cb.metric, postprocess := cb.postprocess, lookup := cb.lookup }

theorem addObservation_eq_updated (cb : Cb TA M OA U Q E) (t : Track TA M OA) (cls : Nat) (o : Option OA) (u : Option U) :
    addObservation cb t cls o u =
      (match u with
       | none => addObservation (updated cb t.attrs) t cls o (some ())
       | some u => match cb.apply u t.attrs with
         | .ok a => addObservation (updated cb a) t cls o (some ())
         | .error e => (.error (.cb e), t, 0)) := by
  unfold addObservation
  cases u with
  | none => rfl
  | some u => dsimp only; cases cb.apply u t.attrs <;> rfl

theorem buildLoop_id (cb : Cb TA M OA U Q E) (obs : List (Nat × Option OA × Option U)) (t0 : Track TA M OA) (n : Nat)
    (t : Track TA M OA) (k : Nat) (h : buildLoop cb t0 n obs = (.ok t, k)) : t.id = t0.id := by
  induction obs generalizing t0 n with
  | nil => simp only [buildLoop, Prod.mk.injEq, Except.ok.injEq] at h; rw [← h.1]
  | cons ob rest ih =>
    simp only [buildLoop] at h
    have hid := addObservation_id cb t0 ob.1 ob.2.1 ob.2.2
    rcases hao : addObservation cb t0 ob.1 ob.2.1 ob.2.2 with ⟨r, t', k'⟩
    rw [hao] at h hid
    cases r with
    | error e => simp at h
    | ok u => exact (ih t' _ h).trans hid

theorem build_id (cb : Cb TA M OA U Q E) (id : Nat) (m : M) (a : TA) (obs : List (Nat × Option OA × Option U))
    (t : Track TA M OA) (k : Nat) (h : build cb id m a obs = (.ok t, k)) : t.id = id :=
  buildLoop_id cb obs _ _ t k h

theorem mergeLoop_any (cb : Cb TA M OA U Q E) (src : Track TA M OA) (nh : List Nat) (classes : List Nat)
    (st st' : MState TA M OA) (h : mergeLoop cb src nh classes st = .ok st') :
    st'.any = (st.any || classes.any (fun c => (getObs st.obs c).isSome || (getObs src.obs c).isSome)) := by
  induction classes generalizing st with
  | nil => simp only [mergeLoop, Except.ok.injEq] at h; subst h; simp
  | cons c rest ih =>
    simp only [mergeLoop] at h
    cases hd : getObs st.obs c <;> cases hs : getObs src.obs c <;> simp only [hd, hs] at h
    · rw [ih st h]; simp [hd, hs]
    -- after the first present class `any = true` on both sides, so the later changes of the table do not matter
    all_goals
      split at h
      · cases h
      · rename_i m a l hopt
        rw [ih _ h]
        simp only [List.any_cons, hd, hs, Option.isSome_some, Option.isSome_none, Bool.or_true, Bool.true_or,
          Bool.or_false, Bool.true_or]

end SimVerif.Track
