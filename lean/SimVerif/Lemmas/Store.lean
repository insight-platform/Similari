import SimVerif.Model.Store
import SimVerif.Lemmas.List
/-! `Model/Store.lean` read as a map: what `find` answers after each operation, whatever the number of shards; one shard is an
association list (`afind`). -/
namespace SimVerif.Store
open SimVerif.Track
variable {TA M OA U Q E : Type}

abbrev AL (TA M OA : Type) := List (Nat × Track TA M OA)

def afind (sh : AL TA M OA) (id : Nat) : Option (Track TA M OA) := (sh.find? (fun p => p.1 == id)).map (·.2)

theorem mem_iff_afind (sh : AL TA M OA) (hnd : (sh.map (·.1)).Nodup) (id : Nat) (t : Track TA M OA) :
    (id, t) ∈ sh ↔ afind sh id = some t := by
  constructor
  · intro h
    rw [afind, ListFacts.find?_key_of_nodup (·.1) hnd h]
    rfl
  · intro h
    obtain ⟨p, hp, rfl⟩ := Option.map_eq_some_iff.mp h
    have hk : p.1 = id := by simpa using List.find?_some hp
    exact hk ▸ List.mem_of_find?_eq_some hp

theorem afind_remove (sh : AL TA M OA) (id id' : Nat) :
    afind (sh.filter (fun p => !(p.1 == id))) id' = if id' = id then none else afind sh id' := by
  unfold afind
  rw [List.find?_filter]
  split
  · next h => simp [h]
  · next h =>
    congr 2
    funext p
    by_cases hp : p.1 = id' <;> simp [hp, h]

theorem afind_put (sh : AL TA M OA) (id id' : Nat) (t : Track TA M OA) :
    afind (sh.filter (fun p => !(p.1 == id)) ++ [(id, t)]) id' = if id' = id then some t else afind sh id' := by
  have := afind_remove sh id id'
  unfold afind at this ⊢
  rw [List.find?_append, Option.map_or, this]
  by_cases h : id' = id
  · simp [h]
  · simp [h, Ne.symm h]

/-- shape invariant: exactly `n > 0` shards -/
structure Shape (s : Store TA M OA) : Prop where
  pos : 0 < s.n
  len : s.shards.length = s.n

theorem getShard_setShard (s : Store TA M OA) (k k' : Nat) (sh : AL TA M OA) :
    getShard (setShard s k sh) k' = if k' = k ∧ k < s.shards.length then sh else getShard s k' := by
  simp only [getShard, setShard, List.getD_eq_getElem?_getD, List.getElem?_set]
  by_cases h : k = k'
  · subst h; by_cases hl : k < s.shards.length <;> simp [hl]
  · simp [h, Ne.symm h]

theorem find_setShard (s : Store TA M OA) (k : Nat) (sh : AL TA M OA) (id : Nat) :
    find (setShard s k sh) id = if shardOf s id = k ∧ k < s.shards.length then afind sh id else find s id := by
  show afind (getShard (setShard s k sh) (shardOf s id)) id = _
  rw [getShard_setShard]
  split <;> rfl

theorem shape_setShard (s : Store TA M OA) (k : Nat) (sh : AL TA M OA) (h : Shape s) : Shape (setShard s k sh) :=
  ⟨h.pos, by simp [setShard, h.len]⟩

theorem shape_put (s : Store TA M OA) (id : Nat) (t : Track TA M OA) (h : Shape s) : Shape (put s id t) :=
  shape_setShard _ _ _ h

theorem shape_remove (s : Store TA M OA) (id : Nat) (h : Shape s) : Shape (remove s id) :=
  shape_setShard _ _ _ h

theorem Shape.shardOf_lt {s : Store TA M OA} (h : Shape s) (id : Nat) : shardOf s id < s.shards.length :=
  h.len ▸ Nat.mod_lt _ h.pos

theorem Shape.shards_eq {s : Store TA M OA} (h : Shape s) : s.shards = (List.range s.n).map (getShard s) := by
  refine List.ext_getElem (by simp [h.len]) fun i h1 h2 => ?_
  simp [getShard, List.getD_eq_getElem?_getD, h1]

theorem all_eq_range (s : Store TA M OA) (h : Shape s) :
    all s = (List.range s.n).flatMap (fun k => (getShard s k).map (·.2)) := by
  rw [all, h.shards_eq, List.flatMap_map]

/-- a replacement of `id`'s shard that differs from the old one only at key `id` changes `find` only at `id` -/
theorem find_setShard_own (s : Store TA M OA) (h : Shape s) (id id' : Nat) (sh : AL TA M OA) (x : Option (Track TA M OA))
    (hsh : afind sh id' = if id' = id then x else afind (getShard s (shardOf s id)) id') :
    find (setShard s (shardOf s id) sh) id' = if id' = id then x else find s id' := by
  rw [find_setShard, hsh]
  by_cases hk : shardOf s id' = shardOf s id
  · rw [if_pos ⟨hk, h.shardOf_lt id⟩, ← hk]; rfl
  · rw [if_neg fun h' => hk h'.1, if_neg fun e : id' = id => hk (e ▸ rfl)]

theorem find_put (s : Store TA M OA) (h : Shape s) (id id' : Nat) (t : Track TA M OA) :
    find (put s id t) id' = if id' = id then some t else find s id' :=
  find_setShard_own s h id id' _ _ (afind_put _ id id' t)

theorem find_remove (s : Store TA M OA) (h : Shape s) (id id' : Nat) :
    find (remove s id) id' = if id' = id then none else find s id' :=
  find_setShard_own s h id id' _ _ (afind_remove _ id id')

theorem setShard_getShard (s : Store TA M OA) (k : Nat) : setShard s k (getShard s k) = s := by
  unfold setShard getShard
  by_cases hk : k < s.shards.length
  · simp [List.getD_eq_getElem?_getD, hk]
  · simp [List.set_eq_of_length_le (Nat.le_of_not_lt hk)]

theorem find_setShard_congr (s : Store TA M OA) (k : Nat) {sh sh' : AL TA M OA} {id : Nat} (h : afind sh id = afind sh' id) :
    find (setShard s k sh) id = find (setShard s k sh') id := by
  rw [find_setShard, find_setShard, h]

/-- the shards themselves, not only the lookups -/
theorem remove_of_find_none (s : Store TA M OA) (id : Nat) (h : find s id = none) : remove s id = s := by
  have hf : (getShard s (shardOf s id)).filter (fun p => !(p.1 == id)) = getShard s (shardOf s id) :=
    List.filter_eq_self.mpr fun p hp => by
      simpa using List.find?_eq_none.mp (Option.map_eq_none_iff.mp h) p hp
  rw [remove, hf, setShard_getShard]

theorem fetchTracks_cons (s : Store TA M OA) (id : Nat) (rest : List Nat) :
    fetchTracks s (id :: rest) =
      ((find s id).toList ++ (fetchTracks (remove s id) rest).1, (fetchTracks (remove s id) rest).2) := by
  rw [fetchTracks]
  cases h : find s id with
  | none => rw [remove_of_find_none s id h]; rfl
  | some t => rfl

theorem getShard_of_replicate {s : Store TA M OA} {n : Nat} (hs : s.shards = List.replicate n []) (k : Nat) :
    getShard s k = [] := by
  simp only [getShard, hs, List.getD_eq_getElem?_getD, List.getElem?_replicate]
  split <;> rfl

theorem find_clear (s : Store TA M OA) (id : Nat) : find (clear s) id = none := by
  rw [find, getShard_of_replicate (n := s.n) rfl]; rfl

theorem shape_clear (s : Store TA M OA) (h : Shape s) : Shape (clear s) := ⟨h.pos, by simp [clear]⟩

theorem shape_empty (n : Nat) (a : TA) (m : M) (hn : 0 < n) : Shape (empty n a m : Store TA M OA) :=
  ⟨hn, by simp [empty]⟩

theorem find_empty (n : Nat) (a : TA) (m : M) (id : Nat) : find (empty n a m : Store TA M OA) id = none := by
  rw [find, getShard_of_replicate (n := n) rfl]; rfl

theorem mergeExternal_ok (cb : Cb TA M OA U Q E) (s : Store TA M OA) (dest : Nat) (src : Track TA M OA)
    (classes : Option (List Nat)) (flag : Bool) (h : (mergeExternal cb s dest src classes flag).1 = .ok ()) :
    ∃ d, find s dest = some d ∧
      (mergeExternal cb s dest src classes flag).2.1 = put s dest (merge cb d src (mergeClasses classes src) flag).2.1 := by
  revert h
  unfold mergeExternal
  cases find s dest with
  | none => exact fun h => nomatch h
  | some d =>
    dsimp only
    split
    · exact fun h => nomatch h
    · rcases hm : merge cb d src (mergeClasses classes src) flag with ⟨_ | ⟨⟨⟩⟩, d', k⟩
      · exact fun h => nomatch h
      · exact fun _ => ⟨d, rfl, by rw [hm]⟩

/-- a track is asked unless it is the candidate itself or, when only ready tracks are wanted, is not `Ready` -/
theorem distPair_of_not_asked (cb : Cb TA M OA U Q E) (cand other : Track TA M OA) (cls : Nat) (ob : Bool)
    (h : ¬ (other.id ≠ cand.id ∧ (ob = true → status cb other = .ok .ready))) : distPair cb cand other cls ob = none := by
  unfold distPair
  split
  · rfl
  · next hid =>
    have hne : other.id ≠ cand.id := fun e => hid (by simp [e])
    cases ob with
    | false => exact absurd ⟨hne, fun h => nomatch h⟩ h
    | true =>
      rcases hst : status cb other with e | st
      · rfl
      · cases st
        · exact absurd ⟨hne, fun _ => hst⟩ h
        · rfl
        · rfl

theorem distPair_of_asked (cb : Cb TA M OA U Q E) (cand other : Track TA M OA) (cls : Nat) (ob : Bool)
    (hne : other.id ≠ cand.id) (hst : ob = true → status cb other = .ok .ready) :
    distPair cb cand other cls ob =
      (match distances cb cand other cls with
       | .ok d => some (.ok (cb.postprocess cand.metric d))
       | .error .incompat => none
       | .error e => some (.error e)) := by
  unfold distPair
  rw [if_neg (by simpa using Ne.symm hne)]
  cases ob with
  | false => rfl
  | true => simp only [hst rfl]; rfl

end SimVerif.Store
