import SimVerif.Lemmas.AssignCert
/-!
# The assignment optimum is invariant under an injective renaming of the track ids
-/
namespace SimVerif.RenA
open SimVerif.AssignX List

def renE (ρ : Nat → Nat) (e : AssignX.Entry) : AssignX.Entry := { e with t := ρ e.t }

theorem renE_q (ρ : Nat → Nat) (e : AssignX.Entry) : (renE ρ e).q = e.q := rfl
theorem renE_t (ρ : Nat → Nat) (e : AssignX.Entry) : (renE ρ e).t = ρ e.t := rfl
theorem renE_w (ρ : Nat → Nat) (e : AssignX.Entry) : (renE ρ e).w = e.w := rfl

end SimVerif.RenA

namespace SimVerif.AssignX
open SimVerif.RenA SimVerif.ListFacts List

theorem queries_ren (ρ : Nat → Nat) (s : List AssignX.Entry) : queries (s.map (renE ρ)) = queries s := by
  unfold queries; rw [map_map]; rfl

/-! Throughout, `ρ` is injective on the tracks of the table: `∀ x ∈ tracks s, ∀ y ∈ tracks s, ρ x = ρ y → x = y`. -/

/-- injectivity on the entries, as `bestDP_rename` and `small_ren` state it -/
theorem inj_tracks_of_entries {ρ : Nat → Nat} {s : List AssignX.Entry}
    (h : ∀ x ∈ s, ∀ y ∈ s, ρ x.t = ρ y.t → x.t = y.t) : ∀ x ∈ tracks s, ∀ y ∈ tracks s, ρ x = ρ y → x = y := by
  intro x hx y hy
  obtain ⟨x0, hx0, rfl⟩ := (mem_tracks s x).mp hx
  obtain ⟨y0, hy0, rfl⟩ := (mem_tracks s y).mp hy
  exact h x0 hx0 y0 hy0

theorem tracks_ren (ρ : Nat → Nat) (s : List AssignX.Entry)
    (hρ : ∀ x ∈ tracks s, ∀ y ∈ tracks s, ρ x = ρ y → x = y) : tracks (s.map (renE ρ)) = (tracks s).map ρ := by
  unfold tracks at hρ ⊢
  rw [show (s.map (renE ρ)).map (·.t) = (s.map (·.t)).map ρ by rw [map_map, map_map]; rfl]
  exact Voting.firsts_map ρ _ fun x hx y hy =>
    hρ x ((Voting.mem_firsts _ x).mpr hx) y ((Voting.mem_firsts _ y).mpr hy)

theorem weightOf_ren (ρ : Nat → Nat) (s : List AssignX.Entry) (hρ : ∀ x ∈ tracks s, ∀ y ∈ tracks s, ρ x = ρ y → x = y)
    (q t : Nat) (ht : t ∈ tracks s) : weightOf (s.map (renE ρ)) q (ρ t) = weightOf s q t := by
  unfold weightOf
  rw [← map_reverse, find?_map]
  have : s.reverse.find? ((fun e : AssignX.Entry => e.q == q && e.t == ρ t) ∘ renE ρ) =
      s.reverse.find? (fun e => e.q == q && e.t == t) := by
    apply find?_congr
    intro e he
    simp only [Function.comp, renE_q, renE_t]
    rw [beq_inj_on ρ e.t t (hρ _ (mem_tracks_of_mem (mem_reverse.mp he)) _ ht)]
  rw [this]
  cases s.reverse.find? (fun e => e.q == q && e.t == t) <;> rfl

theorem objective_ren (ρ : Nat → Nat) (s : List AssignX.Entry) (hρ : ∀ x ∈ tracks s, ∀ y ∈ tracks s, ρ x = ρ y → x = y)
    (thr : Int) (qs : List Nat) (a : List (Option Nat)) (h : ∀ t, some t ∈ a → t ∈ tracks s) :
    objective (s.map (renE ρ)) thr qs (a.map (Option.map ρ)) = objective s thr qs a := by
  induction qs generalizing a with
  | nil => cases a <;> simp [objective]
  | cons q qs ih =>
    cases a with
    | nil => simp [objective]
    | cons o a =>
      have ih' := ih a (fun t ht => h t (mem_cons_of_mem _ ht))
      cases o with
      | none => simp only [map_cons, Option.map_none, objective, ih']
      | some t =>
        simp only [map_cons, Option.map_some, objective, ih']
        rw [weightOf_ren ρ s hρ q t (h t mem_cons_self)]

/-- as `validChoice` reads the assignment off the picks -/
theorem objective_fn_ren (ρ : Nat → Nat) (s : List AssignX.Entry) (hρ : ∀ x ∈ tracks s, ∀ y ∈ tracks s, ρ x = ρ y → x = y)
    (thr : Int) (f : Nat → Option Nat) (h : ∀ q t, f q = some t → t ∈ tracks s) :
    objective (s.map (renE ρ)) thr (queries s) ((queries s).map (fun q => (f q).map ρ)) =
      objective s thr (queries s) ((queries s).map f) := by
  rw [← objective_ren ρ s hρ thr (queries s) ((queries s).map f), map_map]
  · rfl
  · intro t ht
    obtain ⟨q, _, hq⟩ := mem_map.mp ht
    exact h q t hq

theorem allAssign_map (ρ : Nat → Nat) (qs : List Nat) (ts : List Nat)
    (h : ∀ x ∈ ts, ∀ y ∈ ts, ρ x = ρ y → x = y) :
    allAssign qs (ts.map ρ) = (allAssign qs ts).map (List.map (Option.map ρ)) := by
  induction qs generalizing ts with
  | nil => rfl
  | cons q qs ih =>
    simp only [allAssign, map_append, map_map, flatMap_map, map_flatMap]
    rw [ih ts h]
    congr 1
    · rw [map_map]; rfl
    · apply flatMap_congr
      intro t ht
      have hf : (ts.map ρ).filter (fun x => x != ρ t) = (ts.filter (fun x => x != t)).map ρ := by
        rw [filter_map]
        congr 1
        apply filter_congr
        intro x hx
        simp only [Function.comp]
        exact bne_inj_on ρ x t (h x hx t ht)
      rw [hf, ih (ts.filter (fun x => x != t))
        (fun x hx y hy => h x (mem_filter.mp hx).1 y (mem_filter.mp hy).1)]
      rw [map_map]
      rfl

theorem best_ren (ρ : Nat → Nat) (s : List AssignX.Entry) (thr : Int)
    (hρ : ∀ x ∈ tracks s, ∀ y ∈ tracks s, ρ x = ρ y → x = y) : best (s.map (renE ρ)) thr = best s thr := by
  unfold best
  rw [queries_ren, tracks_ren ρ s hρ, allAssign_map ρ (queries s) (tracks s) hρ, map_map]
  have h1 : (allAssign (queries s) (tracks s)).map
      (objective (s.map (renE ρ)) thr (queries s) ∘ List.map (Option.map ρ)) =
      (allAssign (queries s) (tracks s)).map (objective s thr (queries s)) := by
    apply map_congr_left
    intro a ha
    exact objective_ren ρ s hρ thr _ a fun t ht =>
      ((mem_allAssign_table s a).mp ha).2.1 t (mem_filterMap.mpr ⟨_, ht, rfl⟩)
  rw [h1, ← objective_fn_ren ρ s hρ thr (fun _ => none) (fun _ _ h => nomatch h)]
  rfl

/-! ### the dynamic programme reads the tracks through their positions only

`bestDP` feeds only `optCount`; `bestDP_rename` and `small_ren` are kept as statements in their own right, no proof
uses them (`bestOf_ren` goes through `bestOf_eq_best`). -/

/-- the candidate list of a query, written as in the body of `bestDP` so that `simp` finds it there -/
theorem cands_ren (ρ : Nat → Nat) (s : List AssignX.Entry)
    (hρ : ∀ x ∈ tracks s, ∀ y ∈ tracks s, ρ x = ρ y → x = y) (q : Nat) :
    (tracks ((s.map (renE ρ)).filter (fun e => e.q == q))).map
        (fun t => ((((tracks s).map ρ).findIdx? (· == t)).getD 0, weightOf (s.map (renE ρ)) q t)) =
      (tracks (s.filter (fun e => e.q == q))).map (fun t => (((tracks s).findIdx? (· == t)).getD 0, weightOf s q t)) := by
  have hsub : ∀ t ∈ tracks (s.filter (fun e => e.q == q)), t ∈ tracks s := fun t ht => by
    obtain ⟨e, he, rfl⟩ := (mem_tracks _ t).mp ht
    exact mem_tracks_of_mem (mem_filter.mp he).1
  have hf : (s.map (renE ρ)).filter (fun e => e.q == q) = (s.filter (fun e => e.q == q)).map (renE ρ) := by
    rw [filter_map]; rfl
  rw [hf, tracks_ren ρ (s.filter (fun e => e.q == q)) (fun x hx y hy => hρ x (hsub x hx) y (hsub y hy)), map_map]
  apply map_congr_left
  intro t ht
  simp only [Function.comp]
  have h2 : ((tracks s).map ρ).findIdx? (fun x => x == ρ t) = (tracks s).findIdx? (fun x => x == t) := by
    rw [findIdx?_map]
    exact findIdx?_congr fun x hx => beq_inj_on ρ x t (hρ x hx t (hsub t ht))
  rw [weightOf_ren ρ s hρ q t (hsub t ht), h2]

end SimVerif.AssignX

namespace SimVerif.RenA
open SimVerif.AssignX List

theorem bestDP_rename (ρ : Nat → Nat) (s : List AssignX.Entry) (thr : Int)
    (h : ∀ x ∈ s, ∀ y ∈ s, ρ x.t = ρ y.t → x.t = y.t) : bestDP (s.map (renE ρ)) thr = bestDP s thr := by
  unfold bestDP
  have hρ := inj_tracks_of_entries h
  simp only [queries_ren, tracks_ren ρ s hρ, length_map, cands_ren ρ s hρ]

theorem small_ren (ρ : Nat → Nat) (s : List AssignX.Entry)
    (h : ∀ x ∈ s, ∀ y ∈ s, ρ x.t = ρ y.t → x.t = y.t) : small (s.map (renE ρ)) = small s := by
  unfold small
  rw [queries_ren, tracks_ren ρ s (inj_tracks_of_entries h), length_map]

end SimVerif.RenA

namespace SimVerif.AssignX
open SimVerif.RenA List

theorem bestOf_ren (ρ : Nat → Nat) (s : List AssignX.Entry) (thr : Int)
    (hρ : ∀ x ∈ tracks s, ∀ y ∈ tracks s, ρ x = ρ y → x = y) : bestOf (s.map (renE ρ)) thr = bestOf s thr := by
  rw [AssignCert.bestOf_eq_best, AssignCert.bestOf_eq_best, best_ren ρ s thr hρ]

end SimVerif.AssignX
