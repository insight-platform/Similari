import SimVerif.Lemmas.Rigid
import Mathlib.Tactic.FieldSimp
/-!
# The Sutherland–Hodgman model, pass by pass

`shClip` is one `clipPass` per edge of `cyclicEdges clipping` (`shClip_eq_foldl`); a pass puts out the vertices inside its
edge and the crossing points `a + t·(b − a)`, `0 ≤ t ≤ 1`, of consecutive vertices on different sides (`clipEdge_forall`).
In the frame of a box its polygon is `rect`, so its edge half-planes are coordinate bounds (`inside_rect_iff`).
The names under `C08c` are fixed by the statements of C08 that mention them.
-/
namespace SimVerif.C08c
open SimVerif.Geom
variable {α : Type}

/-- the clip edges `clipLoop` walks through: `(cprev, c₀), (c₀, c₁), …` -/
def edgesFrom : Pt α → List (Pt α) → List (Pt α × Pt α)
  | _, [] => []
  | cprev, c :: rest => (cprev, c) :: edgesFrom c rest

/-- the edges of a closed ring given by its open vertex list, starting with `(last, first)`. For a clockwise ring (the order
of `vertices`) `cross x e.1 e.2 ≤ 0` says that `x` is on the inner side of `e`. -/
def cyclicEdges (poly : List (Pt α)) : List (Pt α × Pt α) :=
  match poly.getLast? with
  | none => []
  | some l => edgesFrom l poly

section
variable [Field α]

/-- the intersection point is the point `a + t·(b − a)` of the line through `a`, `b` with
`t = cross a / (cross a − cross b)` (crosses taken against the clip edge `(p, q)`) -/
theorem computeIntersection_lerp (a b p q : Pt α) (hD : cross a p q - cross b p q ≠ 0) :
    computeIntersection a b p q =
      (a.1 + cross a p q / (cross a p q - cross b p q) * (b.1 - a.1),
       a.2 + cross a p q / (cross a p q - cross b p q) * (b.2 - a.2)) := by
  have hden : (a.1 - b.1) * (p.2 - q.2) - (a.2 - b.2) * (p.1 - q.1) = cross a p q - cross b p q := by
    unfold cross; ring
  rw [computeIntersection, hden]
  -- both sides over the common denominator
  refine Prod.ext ?_ ?_ <;>
  · simp only
    rw [mul_one_div, div_mul_eq_mul_div, add_div' _ _ _ hD, div_left_inj' hD]
    unfold cross
    ring

variable [LinearOrder α]

/-- a point lies in the closed rectangle of a box: on the inner side of its four edges -/
def inBox (u : UBox α) (c s : α) (x : Pt α) : Prop := ∀ e ∈ cyclicEdges (vertices u c s), cross x e.1 e.2 ≤ 0

end

end SimVerif.C08c

namespace SimVerif.Geom
open SimVerif.C08b SimVerif.C08c
variable {α : Type}

theorem edgesFrom_map (f : Pt α → Pt α) (p : Pt α) (l : List (Pt α)) :
    edgesFrom (f p) (l.map f) = (edgesFrom p l).map (Prod.map f f) := by
  induction l generalizing p with
  | nil => rfl
  | cons q rest ih => simp only [List.map_cons, edgesFrom, ih, Prod.map_apply]

theorem cyclicEdges_map (f : Pt α → Pt α) (l : List (Pt α)) :
    cyclicEdges (l.map f) = (cyclicEdges l).map (Prod.map f f) := by
  unfold cyclicEdges
  rw [List.getLast?_map]
  cases l.getLast? with
  | none => rfl
  | some p => exact edgesFrom_map f p l

section Field
variable [Field α]

theorem cross_lerp (a b u w : Pt α) (t : α) :
    cross (a.1 + t * (b.1 - a.1), a.2 + t * (b.2 - a.2)) u w = (1 - t) * cross a u w + t * cross b u w := by
  unfold cross; ring

end Field

section Order
variable [Field α] [LinearOrder α]

/-- `computeIntersection` is called for end points on different sides of the clip edge only: its denominator is not 0 -/
theorem cross_ne_of_sides {a b p q : Pt α} (h : isInside a p q ≠ isInside b p q) :
    cross a p q - cross b p q ≠ 0 := by
  intro h0
  apply h
  unfold isInside
  rw [sub_eq_zero.mp h0]

theorem computeIntersection_on_edge (a b p q : Pt α) (h : isInside a p q ≠ isInside b p q) :
    cross (computeIntersection a b p q) p q = 0 := by
  have hD := cross_ne_of_sides h
  -- `(1 − t)·x + t·y = x − t·(x − y)`, and `t·(x − y) = x`
  rw [computeIntersection_lerp a b p q hD, cross_lerp, one_sub_mul, sub_add, ← mul_sub, div_mul_cancel₀ _ hD, sub_self]

/-- what `clipEdge` puts out at the step from `prev` to `cur` -/
def emit (cs ce prev cur : Pt α) : List (Pt α) :=
  if isInside cur cs ce then
    (if !isInside prev cs ce then [computeIntersection prev cur cs ce, cur] else [cur])
  else if isInside prev cs ce then [computeIntersection prev cur cs ce] else []

theorem clipEdge_cons (cs ce prev cur : Pt α) (rest : List (Pt α)) :
    clipEdge cs ce prev (cur :: rest) = emit cs ce prev cur ++ clipEdge cs ce cur rest := rfl

theorem mem_emit {cs ce prev cur x : Pt α} :
    x ∈ emit cs ce prev cur ↔ (x = cur ∧ isInside cur cs ce = true) ∨
      (isInside prev cs ce ≠ isInside cur cs ce ∧ x = computeIntersection prev cur cs ce) := by
  unfold emit
  cases isInside cur cs ce <;> cases isInside prev cs ce <;> simp [or_comm]

/-- a pass puts out input vertices inside the clip edge, which inherit `P` from `Q`, and crossing points -/
theorem clipEdge_forall {Q P : Pt α → Prop} {cs ce : Pt α} (hkeep : ∀ x, Q x → cross x cs ce ≤ 0 → P x)
    (hnew : ∀ a b, Q a → Q b → isInside a cs ce ≠ isInside b cs ce → P (computeIntersection a b cs ce))
    (prev : Pt α) (poly : List (Pt α)) (hprev : Q prev) (hall : ∀ x ∈ poly, Q x) :
    ∀ x ∈ clipEdge cs ce prev poly, P x := by
  induction poly generalizing prev with
  | nil => intro x hx; cases hx
  | cons cur rest ih =>
    obtain ⟨hcur, hrest⟩ := List.forall_mem_cons.mp hall
    intro x hx
    rw [clipEdge_cons, List.mem_append, mem_emit] at hx
    rcases hx with (⟨rfl, hin⟩ | ⟨hs, rfl⟩) | hx
    · exact hkeep _ hcur (of_decide_eq_true hin)
    · exact hnew prev cur hprev hcur hs
    · exact ih cur hcur hrest x hx

theorem clipPass_forall {Q P : Pt α → Prop} {cs ce : Pt α} (hkeep : ∀ x, Q x → cross x cs ce ≤ 0 → P x)
    (hnew : ∀ a b, Q a → Q b → isInside a cs ce ≠ isInside b cs ce → P (computeIntersection a b cs ce))
    (poly : List (Pt α)) (hall : ∀ x ∈ poly, Q x) : ∀ x ∈ clipPass cs ce poly, P x := by
  unfold clipPass
  cases hl : poly.getLast? with
  | none => intro x hx; cases hx
  | some l => exact clipEdge_forall hkeep hnew l poly (hall l (List.mem_of_getLast? hl)) hall

theorem clipPass_inside_own_edge (cs ce : Pt α) (poly : List (Pt α)) : ∀ x ∈ clipPass cs ce poly, cross x cs ce ≤ 0 :=
  clipPass_forall (Q := fun _ => True) (fun _ _ h => h) (fun a b _ _ hs => (computeIntersection_on_edge a b cs ce hs).le) poly
    fun _ _ => trivial

theorem clipEdge_all_inside (cs ce prev : Pt α) (poly : List (Pt α))
    (hp : isInside prev cs ce = true) (hall : ∀ q ∈ poly, isInside q cs ce = true) :
    clipEdge cs ce prev poly = poly := by
  induction poly generalizing prev with
  | nil => rfl
  | cons cur rest ih =>
    obtain ⟨hcur, hrest⟩ := List.forall_mem_cons.mp hall
    rw [clipEdge_cons, emit, if_pos hcur, hp, ih cur hcur hrest]; rfl

theorem clipPass_all_inside (cs ce : Pt α) (poly : List (Pt α))
    (hall : ∀ q ∈ poly, cross q cs ce ≤ 0) : clipPass cs ce poly = poly := by
  have hall' : ∀ q ∈ poly, isInside q cs ce = true := fun q hq => decide_eq_true (hall q hq)
  unfold clipPass
  cases hl : poly.getLast? with
  | none => exact (List.getLast?_eq_none_iff.mp hl).symm
  | some l => exact clipEdge_all_inside cs ce l poly (hall' l (List.mem_of_getLast? hl)) hall'

theorem clipLoop_eq_foldl (cprev : Pt α) (cl poly : List (Pt α)) :
    clipLoop cprev cl poly = (edgesFrom cprev cl).foldl (fun poly e => clipPass e.1 e.2 poly) poly := by
  induction cl generalizing cprev poly with
  | nil => rfl
  | cons c rest ih => exact ih c _

theorem shClip_eq_foldl (subject clipping : List (Pt α)) :
    shClip subject clipping = (cyclicEdges clipping).foldl (fun poly e => clipPass e.1 e.2 poly) subject := by
  unfold shClip cyclicEdges
  cases clipping.getLast? with
  | none => rfl
  | some l => exact clipLoop_eq_foldl l clipping subject

theorem shClip_all_inside (subject clipping : List (Pt α))
    (hall : ∀ q ∈ subject, ∀ e ∈ cyclicEdges clipping, cross q e.1 e.2 ≤ 0) : shClip subject clipping = subject := by
  rw [shClip_eq_foldl]
  generalize cyclicEdges clipping = es at hall ⊢
  induction es with
  | nil => rfl
  | cons e es ih =>
    rw [List.foldl_cons, clipPass_all_inside e.1 e.2 subject fun q hq => hall q hq e List.mem_cons_self,
      ih fun q hq e' he' => hall q hq e' (List.mem_cons_of_mem _ he')]

theorem inside_map_rigid {c s : α} (tx ty : α) (h : c * c + s * s = 1) (poly : List (Pt α)) (q : Pt α) :
    (∀ e ∈ cyclicEdges (poly.map (rigid c s tx ty)), cross (rigid c s tx ty q) e.1 e.2 ≤ 0) ↔
      ∀ e ∈ cyclicEdges poly, cross q e.1 e.2 ≤ 0 := by
  simp only [cyclicEdges_map, List.forall_mem_map, Prod.map_fst, Prod.map_snd, cross_rigid tx ty h]

end Order

section OrderedField
variable [Field α] [LinearOrder α] [IsStrictOrderedRing α]

/-- the crossing point lies between the end points -/
theorem crossing_param_mem {x y : α} (h : decide (x ≤ 0) ≠ decide (y ≤ 0)) : 0 ≤ x / (x - y) ∧ x / (x - y) ≤ 1 := by
  rcases le_or_gt x 0 with hx | hx
  · have hy : 0 < y := not_le.mp fun hy => h (by rw [decide_eq_true hx, decide_eq_true hy])
    have hd : x - y < 0 := sub_neg.mpr (hx.trans_lt hy)
    exact ⟨div_nonneg_of_nonpos hx hd.le, (div_le_one_of_neg hd).mpr (sub_le_self x hy.le)⟩
  · have hy : y ≤ 0 := not_lt.mp fun hy => h (by rw [decide_eq_false hx.not_ge, decide_eq_false hy.not_ge])
    have hd : 0 < x - y := sub_pos.mpr (hy.trans_lt hx)
    exact ⟨div_nonneg hx.le hd.le, (div_le_one hd).mpr (le_sub_self_iff x |>.mpr hy)⟩

theorem computeIntersection_halfplane (a b p q u w : Pt α) (h : isInside a p q ≠ isInside b p q)
    (ha : cross a u w ≤ 0) (hb : cross b u w ≤ 0) : cross (computeIntersection a b p q) u w ≤ 0 := by
  rw [computeIntersection_lerp a b p q (cross_ne_of_sides h), cross_lerp]
  obtain ⟨h0, h1⟩ := crossing_param_mem h
  exact add_nonpos (mul_nonpos_of_nonneg_of_nonpos (sub_nonneg.mpr h1) ha) (mul_nonpos_of_nonneg_of_nonpos h0 hb)

theorem clipPass_halfplane (cs ce u w : Pt α) (poly : List (Pt α))
    (hall : ∀ x ∈ poly, cross x u w ≤ 0) : ∀ x ∈ clipPass cs ce poly, cross x u w ≤ 0 :=
  clipPass_forall (fun _ h _ => h) (fun a b ha hb hs => computeIntersection_halfplane a b cs ce u w hs ha hb) poly hall

theorem inside_rect_iff {hw hh : α} (hw0 : 0 < hw) (hh0 : 0 < hh) (q : Pt α) :
    (∀ e ∈ cyclicEdges (rect hw hh), cross q e.1 e.2 ≤ 0) ↔ (-hw ≤ q.1 ∧ q.1 ≤ hw) ∧ (-hh ≤ q.2 ∧ q.2 ≤ hh) := by
  have e : cyclicEdges (rect hw hh) =
      [((-hw, -hh), (-hw, hh)), ((-hw, hh), (hw, hh)), ((hw, hh), (hw, -hh)), ((hw, -hh), (-hw, -hh))] := rfl
  -- an edge's `cross` is its length times the signed distance of `q` from it
  have e1 : cross q (-hw, -hh) (-hw, hh) = (hh + hh) * -hw - (hh + hh) * q.1 := by simp only [cross]; ring
  have e2 : cross q (-hw, hh) (hw, hh) = (hw + hw) * q.2 - (hw + hw) * hh := by simp only [cross]; ring
  have e3 : cross q (hw, hh) (hw, -hh) = (hh + hh) * q.1 - (hh + hh) * hw := by simp only [cross]; ring
  have e4 : cross q (hw, -hh) (-hw, -hh) = (hw + hw) * -hh - (hw + hw) * q.2 := by simp only [cross]; ring
  simp only [e, List.forall_mem_cons, List.not_mem_nil, false_imp_iff, implies_true, and_true, e1, e2, e3, e4,
    sub_nonpos, mul_le_mul_iff_right₀ (add_pos hh0 hh0), mul_le_mul_iff_right₀ (add_pos hw0 hw0)]
  exact ⟨fun ⟨a, b, c, d⟩ => ⟨⟨a, c⟩, d, b⟩, fun ⟨⟨a, c⟩, d, b⟩ => ⟨a, b, c, d⟩⟩

theorem rect_corner_bounds {hw hh : α} (hw0 : 0 ≤ hw) (hh0 : 0 ≤ hh) :
    ∀ q ∈ rect hw hh, (-hw ≤ q.1 ∧ q.1 ≤ hw) ∧ (-hh ≤ q.2 ∧ q.2 ≤ hh) := by
  have w := neg_le_self hw0
  have t := neg_le_self hh0
  simp only [rect, List.forall_mem_cons, List.not_mem_nil, false_imp_iff, implies_true, and_true]
  exact ⟨⟨⟨le_rfl, w⟩, t, le_rfl⟩, ⟨⟨w, le_rfl⟩, t, le_rfl⟩, ⟨⟨w, le_rfl⟩, le_rfl, t⟩, ⟨le_rfl, w⟩, le_rfl, t⟩

theorem vertices_inBox (u : UBox α) (c s : α) (h : c * c + s * s = 1) (hh : 0 < u.height) (ha : 0 < u.aspect) :
    ∀ p ∈ vertices u c s, inBox u c s p := by
  have hw0 := div_two_pos (mul_pos hh ha)
  have hh0 := div_two_pos hh
  unfold inBox
  rw [vertices_eq, List.forall_mem_map]
  intro q hq
  rw [inside_map_rigid _ _ h, inside_rect_iff hw0 hh0]
  exact rect_corner_bounds hw0.le hh0.le q hq

end OrderedField

end SimVerif.Geom
