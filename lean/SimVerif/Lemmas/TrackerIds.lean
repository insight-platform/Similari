import SimVerif.Lemmas.Tracker
/-!
# The ids a tracker holds

`allIds` lists every id the tracker knows about, by place. No operation but `predict` adds one and none lowers the
counter: this is why "no id above the counter" (`IdsBelow`, `idsBelow_iff`) is kept.
-/
namespace SimVerif
open Tracker C01 C03 List

/-- every id held anywhere by the tracker is at most the last id issued -/
structure C01.IdsBelow (st : St) : Prop where
  live : ∀ t ∈ st.live, t.id ≤ st.nextId
  wasted : ∀ t ∈ st.wasted, t.id ≤ st.nextId
  handed : ∀ i ∈ st.handed, i ≤ st.nextId
  cleared : ∀ i ∈ st.cleared, i ≤ st.nextId

def C03.allIds (st : St) : List Nat := st.live.map (·.id) ++ st.wasted.map (·.id) ++ st.handed ++ st.cleared

namespace Tracker

theorem collect_perm (cfg : Cfg) (s : St) :
    (collect cfg s).live ++ (collect cfg s).wasted ~ s.live ++ s.wasted := by
  have h := ListFacts.filter_split_perm (expired cfg s) s.live
  show s.live.filter (fun t => !expired cfg s t) ++ (s.wasted ++ s.live.filter (fun t => expired cfg s t)) ~
    s.live ++ s.wasted
  exact (perm_append_comm.append_left _).trans (by rw [← append_assoc]; exact h.append_right _)

theorem allIds_collect (cfg : Cfg) (st : St) : allIds (collect cfg st) ~ allIds st := by
  have := (((collect_perm cfg st).map (·.id)).append_right st.handed).append_right st.cleared
  rwa [map_append, map_append] at this

theorem allIds_awStep (cfg : Cfg) (st : St) : allIds (awStep cfg st) ~ allIds st := by
  rcases awStep_eq cfg st with h | h <;> rw [h]
  · exact allIds_collect cfg st
  · exact Perm.refl _

theorem allIds_skip (cfg : Cfg) (st : St) (s n : Nat) : allIds (skip cfg st s n) ~ allIds st :=
  allIds_collect cfg _

theorem allIds_wastedOp (cfg : Cfg) (st : St) : allIds (wastedOp cfg st).1 ~ allIds st := by
  refine Perm.trans ?_ (allIds_collect cfg st)
  -- both sides append the same blocks in another order: compare the number of occurrences of an id
  rw [perm_iff_count]
  intro a
  simp only [allIds, wastedOp, map_nil, count_append, count_nil]
  omega

theorem allIds_clearWasted (st : St) : allIds (clearWasted st) ~ allIds st := by
  rw [perm_iff_count]
  intro a
  simp only [allIds, clearWasted, map_nil, count_append, count_nil]
  omega

theorem allIds_setAutoWaste (st : St) (p : Nat) : allIds (setAutoWaste st p) = allIds st := rfl

theorem allIds_applyPicks {cfg : Cfg} {scene e : Nat} {dets : List Det} {picks : List Pick} {st st' : St}
    {recs : List Rec} (h : applyPicks cfg scene e dets picks st = some (st', recs)) :
    allIds st' ~ allIds st ++ freshIds picks := by
  have hl := applyPicks_liveIds h
  have hf := applyPicks_fields h
  rw [perm_iff_count]
  intro a
  rw [hf]
  simp only [allIds, hl, count_append]
  omega

theorem idsBelow_iff (st : St) : IdsBelow st ↔ ∀ i ∈ allIds st, i ≤ st.nextId := by
  simp only [allIds, mem_append, mem_map]
  constructor
  · rintro ⟨h1, h2, h3, h4⟩ i (((⟨t, ht, rfl⟩ | ⟨t, ht, rfl⟩) | hi) | hi)
    · exact h1 t ht
    · exact h2 t ht
    · exact h3 i hi
    · exact h4 i hi
  · intro h
    exact ⟨fun t ht => h _ (.inl (.inl (.inl ⟨t, ht, rfl⟩))), fun t ht => h _ (.inl (.inl (.inr ⟨t, ht, rfl⟩))),
      fun i hi => h i (.inl (.inr hi)), fun i hi => h i (.inr hi)⟩

end Tracker

theorem C01.IdsBelow.of_conserved {st st' : St} (h : IdsBelow st) (hids : ∀ i ∈ allIds st', i ∈ allIds st)
    (hn : st.nextId ≤ st'.nextId) : IdsBelow st' :=
  (idsBelow_iff st').mpr fun i hi => Nat.le_trans ((idsBelow_iff st).mp h i (hids i hi)) hn

theorem C01.IdsBelow.of_perm {st st' : St} (h : IdsBelow st) (hp : allIds st' ~ allIds st) (hn : st'.nextId = st.nextId) :
    IdsBelow st' :=
  h.of_conserved (fun _ hi => hp.mem_iff.mp hi) (Nat.le_of_eq hn.symm)

theorem C01.IdsBelow.empty : IdsBelow ({} : St) :=
  (idsBelow_iff _).mpr (by simp [allIds])

theorem C01.IdsBelow.awStep (cfg : Cfg) {st : St} (h : IdsBelow st) : IdsBelow (awStep cfg st) :=
  h.of_perm (allIds_awStep cfg st) (Tracker.awStep_nextId cfg st)

end SimVerif
