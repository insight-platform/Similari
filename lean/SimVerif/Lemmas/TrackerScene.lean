import SimVerif.Lemmas.TrackerView
/-!
# A scene step, and the scene steps of a batch

`sceneStep` is the scene step with the validity test left open (`SceneValid`: what the step needs of it), so that
`predictScene` / `predictSceneV` and `predictBatch` / `predictBatchV` are treated once; `sceneStep_view` and
`sceneStep_frame` are `applyPicks_view` / `applyPicks_frame` for a whole step.
-/
namespace SimVerif.Tracker
open SimVerif.C01 SimVerif.Ren SimVerif.ListFacts List

/-- what a scene step needs of its validity test: it reads the state through `entryOk` only, and lets
only live, unexpired tracks of the scene be continued -/
structure SceneValid (cfg : Cfg) (scene : Nat) (picks : List Pick) (valid : St → Nat → Bool) : Prop where
  congr : ∀ a b e, entryOk cfg a scene e = entryOk cfg b scene e → valid a e = valid b e
  conts : ∀ a e, valid a e = true → ∀ tid vis, Pick.cont tid vis ∈ picks →
    ∃ t, findLive a tid = some t ∧ t.scene = scene ∧ e - t.lastUpd ≤ cfg.maxIdle

theorem validChoice_congr (cfg : Cfg) (a b : St) (scene e : Nat)
    (h : entryOk cfg a scene e = entryOk cfg b scene e) : validChoice cfg a scene e = validChoice cfg b scene e := by
  funext n table picks
  unfold validChoice
  rw [h]

theorem sceneValid_validChoice (cfg : Cfg) (scene n : Nat) (table : List Entry) (picks : List Pick) :
    SceneValid cfg scene picks (fun s e => validChoice cfg s scene e n table picks) where
  congr a b e h := by rw [validChoice_congr cfg a b scene e h]
  conts _ _ hv := valid_conts hv

theorem entryOk_of_find (cfg : Cfg) (a b : St) (scene e : Nat)
    (h : ∀ tid t, findLive a tid = some t → t.scene = scene → e - t.lastUpd ≤ cfg.maxIdle → findLive b tid = some t)
    (x : Entry) (hx : entryOk cfg a scene e x = true) : entryOk cfg b scene e x = true := by
  obtain ⟨t, hf, hs, he⟩ := (entryOk_iff cfg a scene e x).mp hx
  exact (entryOk_iff cfg b scene e x).mpr ⟨t, h x.tid t hf hs he, hs, he⟩

theorem findLive_of_find_eq (Q : Trk → Bool) (a b : St)
    (h : ∀ k, (a.live.filter Q).find? (fun x => x.id == k) = (b.live.filter Q).find? (fun x => x.id == k))
    (hna : (a.live.map (·.id)).Nodup) (hnb : (b.live.map (·.id)).Nodup)
    (tid : Nat) (t : Trk) (hf : findLive a tid = some t) (hq : Q t = true) : findLive b tid = some t :=
  findLive_view_of_nodup id Q a b (by rw [map_renTrk_ident]; exact fun k => (h k).symm) hna hnb (fun _ _ _ _ e => e) tid t hf hq

theorem entryOk_view {r : List Trk → List Trk → Prop} (hr : ViewRel r) (cfg : Cfg) (Q : Trk → Bool) (a b : St)
    (scene e : Nat) (hQ : ∀ t : Trk, t.scene = scene → e - t.lastUpd ≤ cfg.maxIdle → Q t = true)
    (hrel : r (b.live.filter Q) (a.live.filter Q)) (hna : (a.live.map (·.id)).Nodup) (hnb : (b.live.map (·.id)).Nodup) :
    entryOk cfg a scene e = entryOk cfg b scene e := by
  funext x
  apply Bool.eq_iff_iff.mpr
  exact ⟨entryOk_of_find cfg a b scene e (fun tid t hf hs he =>
      findLive_of_find_eq Q a b (fun k => (hr.find hrel k).symm) hna hnb tid t hf (hQ t hs he)) x,
    entryOk_of_find cfg b a scene e (fun tid t hf hs he =>
      findLive_of_find_eq Q b a (hr.find hrel) hnb hna tid t hf (hQ t hs he)) x⟩

/-- **The scene step on a view, under a renaming.** Two states (ids unique) give the scene the same epoch; B's
`Q`-tracks are A's renamed by `ρ` (`r`: as the same list, or up to order), `ρ` injective on the ids in play, `Q` blind
to the renaming and containing the unexpired tracks of the scene; B's validity test accepts what A's accepts, given that
B finds renamed what A finds in the view (`htr`); B's id discipline accepts the renamed fresh ids. Then B takes the
renamed step, with the renamed records, and B's `Q`-tracks are A's renamed again. -/
theorem sceneStep_view_ren (cA cB : Cfg) (hv : cA.visual = cB.visual) (ho : cA.maxObs = cB.maxObs)
    (hh : cA.histLen = cB.histLen) (ρ : Nat → Nat) (scene : Nat) (Q : Trk → Bool)
    {r : List Trk → List Trk → Prop} (hr : ViewRel r) {validA validB : St → Nat → Bool} {dets : List Det} {picks : List Pick}
    (hconts : ∀ s e, validA s e = true → ∀ tid vis, Pick.cont tid vis ∈ picks →
      ∃ t, findLive s tid = some t ∧ t.scene = scene ∧ e - t.lastUpd ≤ cA.maxIdle)
    (a b : St) (he : epochOf a scene = epochOf b scene) (hQr : ∀ t, Q (renTrk ρ t) = Q t)
    (hQ : ∀ t : Trk, t.scene = scene → epochOf a scene + 1 - t.lastUpd ≤ cA.maxIdle → Q t = true)
    (hrel : r (b.live.filter Q) ((a.live.filter Q).map (renTrk ρ)))
    (hna : (a.live.map (·.id)).Nodup) (hnb : (b.live.map (·.id)).Nodup)
    (hinj : ∀ x ∈ a.live.map (·.id) ++ freshIds picks, ∀ y ∈ a.live.map (·.id) ++ freshIds picks, ρ x = ρ y → x = y)
    (htr : (∀ tid t, findLive (setEpoch a scene (epochOf a scene + 1)) tid = some t → Q t = true →
        findLive (setEpoch b scene (epochOf a scene + 1)) (ρ tid) = some (renTrk ρ t)) →
      validA (setEpoch a scene (epochOf a scene + 1)) (epochOf a scene + 1) = true →
      validB (setEpoch b scene (epochOf a scene + 1)) (epochOf a scene + 1) = true)
    (lo hi lo' hi' : Nat)
    (hfB : freshIdsOk cB (setEpoch b scene (epochOf b scene + 1)) lo' hi' (picks.map (renPick ρ)) = true)
    (a' : St) (recs : List Rec) (hA : sceneStep cA validA a scene dets picks lo hi = some (a', recs)) :
    ∃ b', sceneStep cB validB b scene dets (picks.map (renPick ρ)) lo' hi' = some (b', recs.map (renRec ρ)) ∧
      r (b'.live.filter Q) ((a'.live.filter Q).map (renTrk ρ)) := by
  obtain ⟨hvA, _, hap⟩ := sceneStep_parts hA
  rw [← he] at hfB
  generalize hE : epochOf a scene + 1 = e at hQ hvA hap hfB htr
  have hfind := findLive_view_of_nodup ρ Q (setEpoch a scene e) (setEpoch b scene e) (hr.find hrel) hna hnb
    (fun x hx y hy => hinj _ (mem_append_left _ (mem_map_of_mem hx)) _ (mem_append_left _ (mem_map_of_mem hy)))
  have hcA : ∀ tid vis, Pick.cont tid vis ∈ picks →
      ∃ t, findLive (setEpoch a scene e) tid = some t ∧ t.scene = scene ∧ Q t = true :=
    fun tid vis hp => (hconts _ _ hvA tid vis hp).imp fun t ht => ⟨ht.1, ht.2.1, hQ t ht.2.1 ht.2.2⟩
  have hcB : ∀ tid vis, Pick.cont tid vis ∈ picks.map (renPick ρ) →
      ∃ t, findLive (setEpoch b scene e) tid = some t ∧ t.scene = scene ∧ Q t = true := by
    intro tid' vis hp
    obtain ⟨tid, hpm, rfl⟩ := mem_map_renPick_cont hp
    obtain ⟨t, htf, hts, htq⟩ := hcA tid vis hpm
    exact ⟨renTrk ρ t, hfind tid t htf htq, hts, (hQr t).trans htq⟩
  obtain ⟨b', hb', hrel'⟩ := applyPicks_view cA cB hv ho hh ρ scene e Q hr
    (fun t hs hl => hQ t hs (by rw [hl, Nat.sub_self]; exact Nat.zero_le _)) dets picks (setEpoch a scene e) a' recs hap
    (setEpoch b scene e) hrel hinj (touched_of_nodup hna hcA) (touched_of_nodup hnb hcB)
  exact ⟨b', sceneStep_of_parts (by rw [← he, hE]) (htr hfind hvA) hfB hb', hrel'⟩

/-- **The scene step on a view**: `sceneStep_view_ren` without renaming, for one configuration and one validity test that
reads the state through `entryOk` only. -/
theorem sceneStep_view (cfg : Cfg) (scene : Nat) (Q : Trk → Bool) {r : List Trk → List Trk → Prop} (hr : ViewRel r)
    {valid : St → Nat → Bool} {dets : List Det} {picks : List Pick} (hvalid : SceneValid cfg scene picks valid)
    (a b : St) (he : epochOf a scene = epochOf b scene)
    (hQ : ∀ t : Trk, t.scene = scene → epochOf a scene + 1 - t.lastUpd ≤ cfg.maxIdle → Q t = true)
    (hrel : r (b.live.filter Q) (a.live.filter Q))
    (hna : (a.live.map (·.id)).Nodup) (hnb : (b.live.map (·.id)).Nodup)
    (lo hi : Nat) (hfB : freshIdsOk cfg (setEpoch b scene (epochOf b scene + 1)) lo hi picks = true)
    (a' : St) (recs : List Rec) (hA : sceneStep cfg valid a scene dets picks lo hi = some (a', recs)) :
    ∃ b', sceneStep cfg valid b scene dets picks lo hi = some (b', recs) ∧ r (b'.live.filter Q) (a'.live.filter Q) := by
  have := sceneStep_view_ren (validA := valid) (validB := valid) cfg cfg rfl rfl rfl id scene Q hr hvalid.conts a b he (fun _ => rfl) hQ
    (by rw [map_renTrk_ident]; exact hrel) hna hnb (fun _ _ _ _ h => h)
    (fun _ hv => by
      rw [← hvalid.congr _ _ _ (entryOk_view hr cfg Q (setEpoch a scene (epochOf a scene + 1)) (setEpoch b scene (epochOf a scene + 1))
        scene _ hQ hrel hna hnb)]
      exact hv)
    lo hi lo hi (by rw [map_renPick_ident]; exact hfB) a' recs hA
  rwa [map_renPick_ident, map_renRec_ident, map_renTrk_ident] at this

/-- **The scene step frames the rest.** The list of the tracks satisfying `N` stays as it is, when no
unexpired track of the scene satisfies `N` (ids unique). -/
theorem sceneStep_frame (cfg : Cfg) (scene : Nat) (N : Trk → Bool) {valid : St → Nat → Bool} {dets : List Det}
    {picks : List Pick} (hvalid : SceneValid cfg scene picks valid) (a a' : St)
    (hN : ∀ t : Trk, t.scene = scene → epochOf a scene + 1 - t.lastUpd ≤ cfg.maxIdle → N t = false)
    (hna : (a.live.map (·.id)).Nodup) (lo hi : Nat) (recs : List Rec)
    (hA : sceneStep cfg valid a scene dets picks lo hi = some (a', recs)) : a'.live.filter N = a.live.filter N := by
  obtain ⟨hv, _, hap⟩ := sceneStep_parts hA
  exact applyPicks_frame cfg scene (epochOf a scene + 1) N (fun t hs hl => hN t hs (by rw [hl]; omega)) dets picks
    (setEpoch a scene (epochOf a scene + 1)) a' recs hap (touched_of_nodup hna
      fun tid vis hp => (hvalid.conts _ _ hv tid vis hp).imp fun t ht => ⟨ht.1, ht.2.1, hN t ht.2.1 ht.2.2⟩)

/-- one scene job of a batch, its validity test left open -/
structure SJob where
  scene : Nat
  dets : List Det
  picks : List Pick
  valid : St → Nat → Bool

def batchSteps (cfg : Cfg) (lo hi : Nat) : List SJob → St → Option (St × List (Nat × List Rec))
  | [], st => some (st, [])
  | j :: rest, st =>
    match sceneStep cfg j.valid st j.scene j.dets j.picks lo hi with
    | none => none
    | some (st', recs) =>
      match batchSteps cfg lo hi rest st' with
      | none => none
      | some (st'', out) => some (st'', (j.scene, recs) :: out)

def batchCall (cfg : Cfg) (st : St) (jobs : List SJob) : Option (St × List (Nat × List Rec)) :=
  let st1 := awStep cfg st
  let lo := st1.nextId
  let hi := lo + (jobs.map (·.dets.length)).foldl (· + ·) 0
  (batchSteps cfg lo hi jobs st1).map (fun r => ({ r.1 with nextId := hi }, r.2))

theorem batchSteps_cons {cfg : Cfg} {lo hi : Nat} {j : SJob} {rest : List SJob} {st st' : St} {out : List (Nat × List Rec)}
    (h : batchSteps cfg lo hi (j :: rest) st = some (st', out)) :
    ∃ st1 recs out', sceneStep cfg j.valid st j.scene j.dets j.picks lo hi = some (st1, recs) ∧
      batchSteps cfg lo hi rest st1 = some (st', out') ∧ out = (j.scene, recs) :: out' := by
  simp only [batchSteps] at h
  split at h
  · cases h
  · rename_i st1 recs h1
    split at h
    · cases h
    · rename_i st2 out' h2
      cases h
      exact ⟨st1, recs, out', h1, h2, rfl⟩

theorem batchCall_some_iff {cfg : Cfg} {st st' : St} {jobs : List SJob} {out : List (Nat × List Rec)} :
    batchCall cfg st jobs = some (st', out) ↔
      ∃ s, batchSteps cfg (awStep cfg st).nextId ((awStep cfg st).nextId + (jobs.map (·.dets.length)).foldl (· + ·) 0)
          jobs (awStep cfg st) = some (s, out) ∧
        st' = { s with nextId := (awStep cfg st).nextId + (jobs.map (·.dets.length)).foldl (· + ·) 0 } := by
  constructor
  · intro h
    obtain ⟨⟨s, o⟩, hs, e⟩ := Option.map_eq_some_iff.mp h
    cases e
    exact ⟨s, hs, rfl⟩
  · rintro ⟨s, hs, rfl⟩
    exact Option.map_eq_some_iff.mpr ⟨(s, out), hs, rfl⟩

def jobOf (cfg : Cfg) (x : Nat × List Det × List Entry × List Pick) : SJob :=
  ⟨x.1, x.2.1, x.2.2.2, fun s e => validChoice cfg s x.1 e x.2.1.length x.2.2.1 x.2.2.2⟩

def jobOfV (cfg : Cfg) (x : Nat × List Det × List VEntry × List Pick) : SJob :=
  ⟨x.1, x.2.1, x.2.2.2, fun s e => validVisualChoice cfg s x.1 e x.2.1.length x.2.2.1 x.2.2.2⟩

theorem batchScenes_eq_batchSteps (cfg : Cfg) (lo hi : Nat) (l : List (Nat × List Det × List Entry × List Pick)) (st : St) :
    batchScenes cfg lo hi l st = batchSteps cfg lo hi (l.map (jobOf cfg)) st := by
  induction l generalizing st with
  | nil => rfl
  | cons x l ih =>
    obtain ⟨scene, dets, table, picks⟩ := x
    unfold batchScenes
    simp only [map_cons, batchSteps, ← ih]
    rfl

theorem batchScenes_cons (cfg : Cfg) (lo hi : Nat) (x : Nat × List Det × List Entry × List Pick)
    (rest : List (Nat × List Det × List Entry × List Pick)) (a st : St) (out : List (Nat × List Rec))
    (h : batchScenes cfg lo hi (x :: rest) a = some (st, out)) :
    ∃ a' r out', predictScene cfg a x.1 x.2.1 x.2.2.1 x.2.2.2 lo hi = some (a', r) ∧
      batchScenes cfg lo hi rest a' = some (st, out') ∧ out = (x.1, r) :: out' := by
  rw [batchScenes_eq_batchSteps, map_cons] at h
  obtain ⟨a', r, out', h1, h2, rfl⟩ := batchSteps_cons h
  exact ⟨a', r, out', h1, (batchScenes_eq_batchSteps cfg lo hi rest a').trans h2, rfl⟩

theorem batchScenes_cons_eq (cfg : Cfg) (lo hi : Nat) (x : Nat × List Det × List Entry × List Pick)
    (rest : List (Nat × List Det × List Entry × List Pick)) (a a' st : St) (r : List Rec) (out' : List (Nat × List Rec))
    (h1 : predictScene cfg a x.1 x.2.1 x.2.2.1 x.2.2.2 lo hi = some (a', r))
    (h2 : batchScenes cfg lo hi rest a' = some (st, out')) :
    batchScenes cfg lo hi (x :: rest) a = some (st, (x.1, r) :: out') := by
  obtain ⟨scene, dets, table, picks⟩ := x
  unfold batchScenes
  simp only at h1 ⊢
  rw [h1]
  simp only [h2]

theorem batchScenesV_eq_batchSteps (cfg : Cfg) (lo hi : Nat) (l : List (Nat × List Det × List VEntry × List Pick)) (st : St) :
    batchScenesV cfg lo hi l st = batchSteps cfg lo hi (l.map (jobOfV cfg)) st := by
  induction l generalizing st with
  | nil => rfl
  | cons x l ih =>
    obtain ⟨scene, dets, table, picks⟩ := x
    unfold batchScenesV
    simp only [map_cons, batchSteps, ← ih]
    rfl

theorem predictBatch_eq_batchCall (cfg : Cfg) (st : St) (l : List (Nat × List Det × List Entry × List Pick)) :
    predictBatch cfg st l = batchCall cfg st (l.map (jobOf cfg)) := by
  unfold predictBatch batchCall
  simp only [batchScenes_eq_batchSteps, map_map]
  rfl

/-- a batch call is the scene jobs run from the state after the countdown, with ids drawn from the range above its
counter; the counter is set to the end of the range -/
theorem predictBatch_some_iff {cfg : Cfg} {a a' : St} {scenes : List (Nat × List Det × List Entry × List Pick)}
    {out : List (Nat × List Rec)} :
    predictBatch cfg a scenes = some (a', out) ↔
      ∃ s, batchScenes cfg (awStep cfg a).nextId
          ((awStep cfg a).nextId + (scenes.map (fun s => s.2.1.length)).foldl (· + ·) 0) scenes (awStep cfg a) = some (s, out) ∧
        a' = { s with nextId := (awStep cfg a).nextId + (scenes.map (fun s => s.2.1.length)).foldl (· + ·) 0 } := by
  rw [predictBatch_eq_batchCall, batchCall_some_iff, batchScenes_eq_batchSteps, map_map]
  rfl

theorem predictBatch_some_le (cfg : Cfg) (a a' : St) (scenes : List (Nat × List Det × List Entry × List Pick))
    (out : List (Nat × List Rec)) (h : predictBatch cfg a scenes = some (a', out)) :
    ∃ hi s, (awStep cfg a).nextId ≤ hi ∧ batchScenes cfg (awStep cfg a).nextId hi scenes (awStep cfg a) = some (s, out) ∧
      a' = { s with nextId := hi } := by
  obtain ⟨s, hbs, e⟩ := predictBatch_some_iff.mp h
  exact ⟨_, s, Nat.le_add_right _ _, hbs, e⟩

theorem predictBatchV_eq_batchCall (cfg : Cfg) (st : St) (l : List (Nat × List Det × List VEntry × List Pick)) :
    predictBatchV cfg st l = batchCall cfg st (l.map (jobOfV cfg)) := by
  unfold predictBatchV batchCall
  simp only [batchScenesV_eq_batchSteps, map_map]
  rfl

section predictScene
variable {cfg : Cfg} {scene : Nat} {a a' : St} {dets : List Det} {table : List Entry} {picks : List Pick}
  {lo hi : Nat} {recs : List Rec}

theorem predictScene_view (Q : Trk → Bool) {r : List Trk → List Trk → Prop} (hr : ViewRel r)
    (hQs : ∀ t : Trk, t.scene = scene → Q t = true) {b : St}
    (hna : (a.live.map (·.id)).Nodup) (hnb : (b.live.map (·.id)).Nodup)
    (hp : r (b.live.filter Q) (a.live.filter Q)) (he : epochOf a scene = epochOf b scene)
    (hfb : freshIdsOk cfg (setEpoch b scene (epochOf b scene + 1)) lo hi picks = true)
    (ha : predictScene cfg a scene dets table picks lo hi = some (a', recs)) :
    ∃ b', predictScene cfg b scene dets table picks lo hi = some (b', recs) ∧ r (b'.live.filter Q) (a'.live.filter Q) :=
  sceneStep_view cfg scene Q hr (sceneValid_validChoice cfg scene dets.length table picks) a b he
    (fun t hs _ => hQs t hs) hp hna hnb lo hi hfb a' recs ha

theorem predictScene_frame (N : Trk → Bool) (hN : ∀ t : Trk, t.scene = scene → N t = false)
    (hna : (a.live.map (·.id)).Nodup) (ha : predictScene cfg a scene dets table picks lo hi = some (a', recs)) :
    a'.live.filter N = a.live.filter N :=
  sceneStep_frame cfg scene N (sceneValid_validChoice cfg scene dets.length table picks) a a'
    (fun t hs _ => hN t hs) hna lo hi recs ha

theorem predictScene_epoch (ha : predictScene cfg a scene dets table picks lo hi = some (a', recs)) (s : Nat) :
    epochOf a' s = if s = scene then epochOf a scene + 1 else epochOf a s := by
  have hf := predictScene_fields ha
  rw [epochOf_congr a' (setEpoch a scene (epochOf a scene + 1)) (congrArg St.epochs hf :), epochOf_setEpoch]

/-- `a'` is `a` except for the three fields a scene step writes: the weaker twin of `predictScene_fields`, which also
says what the epochs are -/
def SameRest (a' a : St) : Prop := a' = { a with epochs := a'.epochs, live := a'.live, nextId := a'.nextId }

theorem SameRest.trans {a m st : St} (h2 : SameRest st m) (h1 : SameRest m a) : SameRest st a := by
  unfold SameRest at *
  rw [h2, h1]

theorem predictScene_rest (ha : predictScene cfg a scene dets table picks lo hi = some (a', recs)) : SameRest a' a := by
  unfold SameRest
  rw [predictScene_fields ha]
  rfl

theorem predictScene_nextId (ha : predictScene cfg a scene dets table picks lo hi = some (a', recs)) :
    a'.nextId = a.nextId + (if cfg.batchIds then picks.length else (freshIds picks).length) :=
  applyPicks_nextId (st := setEpoch a scene (epochOf a scene + 1)) (predictScene_parts ha).2.2

theorem predictScene_liveIds (ha : predictScene cfg a scene dets table picks lo hi = some (a', recs)) :
    a'.live.map (·.id) = a.live.map (·.id) ++ freshIds picks :=
  applyPicks_liveIds (st := setEpoch a scene (epochOf a scene + 1)) (predictScene_parts ha).2.2

theorem predictScene_fresh (hb : cfg.batchIds = true)
    (ha : predictScene cfg a scene dets table picks lo hi = some (a', recs)) :
    (∀ id ∈ freshIds picks, lo < id ∧ id ≤ hi ∧ id ∉ a.live.map (·.id)) ∧ (freshIds picks).Nodup :=
  (freshIdsOk_batch_iff cfg hb _ lo hi picks).mp (predictScene_parts ha).2.1

theorem predictScene_nodup (hb : cfg.batchIds = true) (hna : (a.live.map (·.id)).Nodup)
    (ha : predictScene cfg a scene dets table picks lo hi = some (a', recs)) : (a'.live.map (·.id)).Nodup := by
  obtain ⟨h1, h2⟩ := predictScene_fresh hb ha
  rw [predictScene_liveIds ha, nodup_append]
  exact ⟨hna, h2, fun x hx y hy hxy => (h1 y hy).2.2 (hxy ▸ hx)⟩

end predictScene

end SimVerif.Tracker
