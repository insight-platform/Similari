import SimVerif.Lemmas.Tracker
import Mathlib.Data.List.Nodup
/-!
# Numbering the fresh ids of a history (for `C04_projection` and `C06_refines_simple`)

The renaming `ρ` of both theorems sends the fresh ids of the history, in the order they are issued, to
`1, 2, …` — the ids a simple tracker started empty issues. `Numbered ρ k l`: `ρ` sends `l` to `k+1, k+2, …`.
`awStep_nextId` below states what `Tracker.awStep_nextId` states: a statement of its own, kept under the name it
was first given (DESIGN 14.16); the namespace `HistC06` is that name's.
-/
namespace SimVerif.HistC06
open SimVerif.Tracker List

def Numbered (ρ : Nat → Nat) (k : Nat) (l : List Nat) : Prop := l.map ρ = List.range' (k + 1) l.length

theorem numbered_append (ρ : Nat → Nat) (k : Nat) (l₁ l₂ : List Nat) (h : Numbered ρ k (l₁ ++ l₂)) :
    Numbered ρ k l₁ ∧ Numbered ρ (k + l₁.length) l₂ := by
  unfold Numbered at h ⊢
  rw [map_append, length_append, ← range'_append_1] at h
  have := append_inj h (by simp)
  refine ⟨this.1, ?_⟩
  rw [this.2]
  congr 1
  omega

theorem numbered_bounds (ρ : Nat → Nat) (k : Nat) (l : List Nat) (h : Numbered ρ k l) :
    ∀ id ∈ l, k < ρ id ∧ ρ id ≤ k + l.length := by
  intro id hid
  have := (consecutive_ids (l := l.map ρ) (n := k) (by rw [length_map]; exact h)).2 (ρ id) (mem_map_of_mem hid)
  rwa [length_map] at this

/-- the numbering `ρ` of a duplicate-free list `F`: position + 1 on `F`, beyond `F.length` elsewhere -/
def numbering (F : List Nat) (x : Nat) : Nat := if x ∈ F then F.idxOf x + 1 else F.length + 1 + x

theorem numbering_inj (F : List Nat) : Function.Injective (numbering F) := by
  intro x y h
  unfold numbering at h
  by_cases hx : x ∈ F <;> by_cases hy : y ∈ F
  · rw [if_pos hx, if_pos hy] at h
    exact (idxOf_inj hx).mp (by omega)
  · rw [if_pos hx, if_neg hy] at h
    have := idxOf_lt_length_of_mem hx
    omega
  · rw [if_neg hx, if_pos hy] at h
    have := idxOf_lt_length_of_mem hy
    omega
  · rw [if_neg hx, if_neg hy] at h
    omega

theorem numbering_numbered (F : List Nat) (hF : F.Nodup) : Numbered (numbering F) 0 F := by
  unfold Numbered
  apply ext_getElem
  · simp
  · intro i h1 h2
    rw [getElem_map, getElem_range']
    have hi : i < F.length := by simpa using h1
    unfold numbering
    rw [if_pos (getElem_mem hi), hF.idxOf_getElem i hi]
    omega

theorem awStep_nextId (cfg : Cfg) (st : St) : (awStep cfg st).nextId = st.nextId :=
  Tracker.awStep_nextId cfg st

end SimVerif.HistC06
