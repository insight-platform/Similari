import SimVerif.Model.Constraints
import SimVerif.Lemmas.SortKey
namespace SimVerif.Constraints

theorem mergeSort_filter_key (l : List Entry) (g : Nat) :
    (l.mergeSort keyLE).filter (fun e => e.1 == g) = l.filter (fun e => e.1 == g) := by
  -- the entries with gap `g` are sorted already, so they are a sub-list of the sorted list, of the full length
  have hsub : (l.filter (fun e => e.1 == g)).Sublist (l.mergeSort keyLE) :=
    List.sublist_mergeSort (SortKey.asc_trans (Prod.fst : Entry → Nat) fun _ _ => rfl) (SortKey.asc_total (Prod.fst : Entry → Nat) fun _ _ => rfl)
      (List.pairwise_of_forall_mem_list fun a ha b hb => decide_eq_true <| Nat.le_of_eq <|
        (beq_iff_eq.mp (List.mem_filter.mp ha).2).trans (beq_iff_eq.mp (List.mem_filter.mp hb).2).symm)
      List.filter_sublist
  have h2 := hsub.filter (fun e => e.1 == g)
  simp only [List.filter_filter, Bool.and_self] at h2
  exact (h2.eq_of_length ((List.mergeSort_perm l keyLE).filter _).length_eq.symm).symm

/-- `dedupAux` only drops an entry whose gap the last retained entry has already, so the first entry with gap `g`
stays the first (sorted or not) -/
theorem dedupAux_find (prev : Entry) (l : List Entry) (g : Nat) (hg : g ≠ prev.1) :
    (dedupAux prev l).find? (fun e => e.1 == g) = l.find? (fun e => e.1 == g) := by
  induction l generalizing prev with
  | nil => rfl
  | cons b rest ih =>
    rw [dedupAux]
    split
    · rename_i hb
      rw [List.find?_cons_of_neg (by simpa [hb] using hg.symm), ih prev hg]
    · by_cases hbg : b.1 = g
      · simp [hbg]
      · rw [List.find?_cons_of_neg (by simpa using hbg), List.find?_cons_of_neg (by simpa using hbg),
          ih b (Ne.symm hbg)]

theorem dedupAux_sorted (prev : Entry) (l : List Entry) (hs : (prev :: l).Pairwise (fun a b => a.1 ≤ b.1)) :
    (prev :: dedupAux prev l).Pairwise (fun a b => a.1 < b.1) := by
  induction l generalizing prev with
  | nil => simp [dedupAux]
  | cons b rest ih =>
    obtain ⟨h1, h2⟩ := List.pairwise_cons.mp hs
    obtain ⟨h3, h4⟩ := List.pairwise_cons.mp h2
    unfold dedupAux
    split
    · exact ih prev (List.pairwise_cons.mpr ⟨fun x hx => h1 x (List.mem_cons_of_mem _ hx), h4⟩)
    · rename_i hb
      have ihb := ih b h2
      have hlt : prev.1 < b.1 := Nat.lt_of_le_of_ne (h1 b List.mem_cons_self) fun e => hb e.symm
      refine List.pairwise_cons.mpr ⟨?_, ihb⟩
      intro x hx
      rcases List.mem_cons.mp hx with rfl | hx
      · exact hlt
      · exact Nat.lt_trans hlt ((List.pairwise_cons.mp ihb).1 x hx)

theorem dedupFirst_sorted (l : List Entry) (hs : l.Pairwise (fun a b => a.1 ≤ b.1)) :
    (dedupFirst l).Pairwise (fun a b => a.1 < b.1) := by
  cases l with
  | nil => simp [dedupFirst]
  | cons a rest => exact dedupAux_sorted a rest hs

theorem dedupFirst_find (l : List Entry) (g : Nat) :
    (dedupFirst l).find? (fun e => e.1 == g) = l.find? (fun e => e.1 == g) := by
  cases l with
  | nil => rfl
  | cons a rest =>
    by_cases hag : a.1 = g
    · simp [dedupFirst, hag]
    · rw [dedupFirst, List.find?_cons_of_neg (by simpa using hag), List.find?_cons_of_neg (by simpa using hag),
        dedupAux_find a rest g (Ne.symm hag)]

theorem addConstraints_spec (cs new t : List Entry) (h : addConstraints cs new = some t) :
    t.Pairwise (fun a b => a.1 < b.1) ∧
    ∀ g, t.find? (fun e => e.1 == g) = (cs ++ new).find? (fun e => e.1 == g) := by
  unfold addConstraints at h
  split at h
  · injection h with h; subst h
    refine ⟨dedupFirst_sorted _ (SortKey.pairwise_mergeSort_asc (Prod.fst : Entry → Nat) (fun _ _ => rfl) _), fun g => ?_⟩
    rw [dedupFirst_find, ← List.head?_filter, mergeSort_filter_key, List.head?_filter]
  · cases h

end SimVerif.Constraints
