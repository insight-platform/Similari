import SimVerif.Lemmas.AssignPerm
import Mathlib.Algebra.Order.BigOperators.Group.List
import Mathlib.Tactic.Linarith
/-!
# The certified optimum is the optimum (weak duality)

`AssignX.certified s thr = some b → AssignX.best s thr = b`, hence `bestOf s thr = best s thr` for every
table: the potential-method solver `hungarian` is not trusted, only its checked certificate is used.
-/
namespace SimVerif.AssignX
open List

theorem isum_eq_sum (l : List Int) : isum l = l.sum := rfl

theorem nodupN_iff (l : List Nat) : nodupN l = true ↔ l.Nodup := by
  induction l with
  | nil => simp [nodupN]
  | cons a l ih => simp [nodupN, ih]

theorem sum_le_of_nodup_subset (V : Nat → Int) (l T : List Nat) (hnd : l.Nodup) (hsub : ∀ x ∈ l, x ∈ T)
    (hV : ∀ t ∈ T, 0 ≤ V t) : (l.map V).sum ≤ (T.map V).sum := by
  obtain ⟨l', hp, hs⟩ := subperm_of_subset hnd hsub
  rw [← (hp.map V).sum_eq]
  exact (hs.map V).sum_le_sum (fun x hx => by obtain ⟨t, ht, rfl⟩ := mem_map.mp hx; exact hV t ht)

/-- weak duality, pointwise part: the objective of any aligned assignment into `T` is bounded by the row
potentials plus the potentials of the columns it uses -/
theorem objective_le_dual (s : List Entry) (thr : Int) (U V Vd : Nat → Int) (Q T : List Nat)
    (hW : ∀ q ∈ Q, ∀ t ∈ T, weightOf s q t ≤ U q + V t)
    (hT : ∀ q ∈ Q, thr ≤ U q + Vd q) (hVd : ∀ q ∈ Q, 0 ≤ Vd q)
    (qs : List Nat) (a : List (Option Nat)) (hqs : ∀ q ∈ qs, q ∈ Q) (hlen : a.length = qs.length)
    (hin : ∀ x ∈ a.filterMap id, x ∈ T) :
    objective s thr qs a ≤ (qs.map U).sum + (qs.map Vd).sum + ((a.filterMap id).map V).sum := by
  induction qs generalizing a with
  | nil =>
    cases a with
    | nil => exact Int.le_refl 0
    | cons o rest => cases hlen
  | cons q qs ih =>
    cases a with
    | nil => cases hlen
    | cons o rest =>
      have hq : q ∈ Q := hqs q mem_cons_self
      have ih' := fun hin' => ih rest (fun x hx => hqs x (mem_cons_of_mem _ hx)) (Nat.succ.inj hlen) hin'
      cases o with
      | none =>
        rw [show (none :: rest).filterMap id = rest.filterMap id from rfl] at hin ⊢
        have := ih' hin
        have h1 := hT q hq
        rw [objective, map_cons, map_cons, sum_cons, sum_cons]
        omega
      | some t =>
        rw [show (some t :: rest).filterMap id = t :: rest.filterMap id from rfl] at hin ⊢
        rw [forall_mem_cons] at hin
        have := ih' hin.2
        have h1 := hW q hq t hin.1
        have h2 := hVd q hq
        rw [objective, map_cons, map_cons, map_cons, sum_cons, sum_cons, sum_cons]
        omega

end SimVerif.AssignX

namespace SimVerif.AssignCert
open SimVerif.AssignX List

/-- weak duality: every one-to-one partial assignment of the queries into the tracks stays below the dual bound -/
theorem dual_bound (s : List Entry) (thr : Int) (U V Vd : Nat → Int)
    (hW : ∀ q ∈ queries s, ∀ t ∈ tracks s, weightOf s q t ≤ U q + V t)
    (hT : ∀ q ∈ queries s, thr ≤ U q + Vd q) (hVd : ∀ q ∈ queries s, 0 ≤ Vd q) (hV : ∀ t ∈ tracks s, 0 ≤ V t)
    (a : List (Option Nat)) (hlen : a.length = (queries s).length)
    (hin : ∀ x ∈ a.filterMap id, x ∈ tracks s) (hnd : (a.filterMap id).Nodup) :
    objective s thr (queries s) a ≤
      ((queries s).map U).sum + ((queries s).map Vd).sum + ((tracks s).map V).sum := by
  have h1 := objective_le_dual s thr U V Vd (queries s) (tracks s) hW hT hVd (queries s) a (fun _ h => h) hlen hin
  have h2 := sum_le_of_nodup_subset V (a.filterMap id) (tracks s) hnd hin hV
  linarith

end SimVerif.AssignCert

namespace SimVerif.AssignX
open List

theorem certOK_spec (s : List Entry) (thr : Int) (U V Vd : Nat → Int) (a : List (Option Nat))
    (h : certOK s thr U V Vd a = true) :
    (∀ q ∈ queries s, ∀ t ∈ tracks s, weightOf s q t ≤ U q + V t) ∧
    (∀ q ∈ queries s, thr ≤ U q + Vd q) ∧ (∀ q ∈ queries s, 0 ≤ Vd q) ∧ (∀ t ∈ tracks s, 0 ≤ V t) ∧
    a.length = (queries s).length ∧ (∀ x ∈ a.filterMap id, x ∈ tracks s) ∧ (a.filterMap id).Nodup ∧
    objective s thr (queries s) a =
      ((queries s).map U).sum + ((queries s).map Vd).sum + ((tracks s).map V).sum := by
  unfold certOK at h
  simp only [Bool.and_eq_true, all_eq_true, decide_eq_true_eq, beq_iff_eq, nodupN_iff,
    List.contains_iff_mem] at h
  obtain ⟨⟨⟨⟨⟨⟨hW, hT⟩, hV⟩, hlen⟩, hin⟩, hnd⟩, hobj⟩ := h
  exact ⟨hW, fun q hq => (hT q hq).1, fun q hq => (hT q hq).2, hV, hlen, hin, hnd, hobj⟩

/-- **a checked certificate pins the optimum**: dual feasibility bounds every assignment of the enumeration,
and the certified matching attains the bound -/
theorem certOK_best (s : List Entry) (thr : Int) (U V Vd : Nat → Int) (a : List (Option Nat))
    (h : certOK s thr U V Vd a = true) :
    best s thr = isum ((queries s).map U) + isum ((queries s).map Vd) + isum ((tracks s).map V) := by
  obtain ⟨hW, hT, hVd, hV, hlen, hin, hnd, hobj⟩ := certOK_spec s thr U V Vd a h
  simp only [isum_eq_sum]
  apply le_antisymm
  · -- the optimum is attained by a one-to-one partial assignment, and each of those is below the bound
    obtain ⟨a', ha', he⟩ := best_attained s thr
    obtain ⟨hl, hi, hn⟩ := (mem_allAssign_table s a').mp ha'
    rw [← he]
    exact AssignCert.dual_bound s thr U V Vd hW hT hVd hV a' hl hi hn
  · rw [← hobj]
    exact le_best s thr a ((mem_allAssign_table s a).mpr ⟨hlen, hin, hnd⟩)

theorem certified_eq_best (s : List Entry) (thr : Int) (b : Int) (h : certified s thr = some b) :
    best s thr = b := by
  -- the solver's answer stays an opaque triple: only the check of what is read off it matters
  rw [certified] at h
  split at h
  dsimp only at h
  split at h
  · rename_i hc
    rw [certOK_best s thr _ _ _ _ hc]
    exact Option.some.inj h
  · cases h

end SimVerif.AssignX

namespace SimVerif.AssignCert
open SimVerif.AssignX List

/-- **the optimum the model uses is the optimum over all one-to-one partial assignments**, for tables of
every size -/
theorem bestOf_eq_best (s : List Entry) (thr : Int) : bestOf s thr = best s thr := by
  unfold bestOf
  split
  · rfl
  · split
    · rename_i b hb; exact (certified_eq_best s thr b hb).symm
    · rfl

end SimVerif.AssignCert
