import SimVerif.Model.Geom
import Mathlib.Algebra.Order.Field.Basic
import Mathlib.Tactic.LinearCombination
/-!
# The scalar helpers of `Model/Geom.lean` in Mathlib's terms
-/

namespace SimVerif.Geom

section Field
variable {α : Type} [Field α]

theorem two_eq : (two : α) = 2 := one_add_one_eq_two

/-- a rotation preserves the norm; all metric invariance of `C08b` is this identity -/
theorem rot_normSq {c s : α} (h : c * c + s * s = 1) (a b : α) :
    (c * a - s * b) * (c * a - s * b) + (s * a + c * b) * (s * a + c * b) = a * a + b * b := by
  linear_combination (a * a + b * b) * h

/-- … and the determinant -/
theorem rot_det {c s : α} (h : c * c + s * s = 1) (a b x y : α) :
    (c * a - s * b) * (s * x + c * y) - (s * a + c * b) * (c * x - s * y) = a * y - b * x := by
  linear_combination (a * y - b * x) * h

end Field

section Order
variable {α : Type} [LinearOrder α]

theorem maxv_eq (a b : α) : maxv a b = max a b := by
  unfold maxv
  split_ifs with h
  · exact (max_eq_right h.le).symm
  · exact (max_eq_left (not_lt.mp h)).symm

theorem minv_eq (a b : α) : minv a b = min a b := by
  unfold minv
  split_ifs with h
  · exact (min_eq_right h.le).symm
  · exact (min_eq_left (not_lt.mp h)).symm

end Order

variable {α : Type} [Field α] [LinearOrder α] [IsStrictOrderedRing α]

theorem div_two_pos {x : α} (h : 0 < x) : 0 < x / two := div_pos h (by rw [two_eq]; exact zero_lt_two)

theorem absv_eq (x : α) : absv x = |x| := by
  unfold absv
  split_ifs with h
  · exact (abs_of_neg h).symm
  · exact (abs_of_nonneg (not_lt.mp h)).symm

theorem radiusSq_nonneg (u : UBox α) : 0 ≤ radiusSq u :=
  add_nonneg (mul_self_nonneg _) (mul_self_nonneg _)

end SimVerif.Geom
