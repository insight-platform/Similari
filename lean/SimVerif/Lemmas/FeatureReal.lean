import SimVerif.Lemmas.Feature
import Mathlib.Analysis.Real.Sqrt
namespace SimVerif.Feature
open Real

/-- the shape of `cosine` of src/distance.rs, `divided / sqrt(f1_divisor * f2_divisor)`, on flat real vectors, with the norms of
the whole lists (the source cuts them to the common block prefix) -/
noncomputable def cosineR (a b : List ℝ) : ℝ := flatDot a b / Real.sqrt (flatDot a a * flatDot b b)

noncomputable def euclidR (a b : List ℝ) : ℝ := Real.sqrt (flatSq a b)

theorem flatDot_nil_left (b : List ℝ) : flatDot [] b = 0 := rfl
theorem flatDot_nil_right (a : List ℝ) : flatDot a [] = 0 := by cases a <;> rfl
theorem flatDot_cons (x y : ℝ) (a b : List ℝ) :
    flatDot (x :: a) (y :: b) = x * y + flatDot a b := rfl
theorem flatSq_nil_left (b : List ℝ) : flatSq [] b = 0 := rfl
theorem flatSq_nil_right (a : List ℝ) : flatSq a [] = 0 := by cases a <;> rfl
theorem flatSq_cons (x y : ℝ) (a b : List ℝ) :
    flatSq (x :: a) (y :: b) = (x - y) * (x - y) + flatSq a b := rfl

theorem lsum_zip_comm (g : ℝ × ℝ → ℝ) (hg : ∀ p, g p.swap = g p) (a b : List ℝ) :
    lsum ((a.zip b).map g) = lsum ((b.zip a).map g) := by
  rw [← List.zip_swap b a, List.map_map]
  exact congrArg lsum (List.map_congr_left fun p _ => hg p)

theorem flatDot_comm (a b : List ℝ) : flatDot a b = flatDot b a := lsum_zip_comm _ (fun _ => mul_comm _ _) a b

theorem flatSq_comm (a b : List ℝ) : flatSq a b = flatSq b a :=
  lsum_zip_comm _ (fun p => by simp only [Prod.fst_swap, Prod.snd_swap]; ring) a b

theorem flatSq_self (a : List ℝ) : flatSq a a = 0 := by
  induction a with
  | nil => rfl
  | cons x a ih => rw [flatSq_cons, ih]; ring

theorem flatDot_self_nonneg (a : List ℝ) : 0 ≤ flatDot a a := by
  induction a with
  | nil => exact le_refl _
  | cons x a ih => rw [flatDot_cons]; exact add_nonneg (mul_self_nonneg x) ih

theorem flatDot_map_left (k : ℝ) (a b : List ℝ) :
    flatDot (a.map (k * ·)) b = k * flatDot a b := by
  induction a generalizing b with
  | nil => rw [List.map_nil, flatDot_nil_left, mul_zero]
  | cons x a ih =>
    cases b with
    | nil => rw [flatDot_nil_right, flatDot_nil_right, mul_zero]
    | cons y b => rw [List.map_cons, flatDot_cons, flatDot_cons, ih b]; ring

theorem flatDot_map_right (k : ℝ) (a b : List ℝ) :
    flatDot a (b.map (k * ·)) = k * flatDot a b := by
  rw [flatDot_comm, flatDot_map_left, flatDot_comm]

/-- Cauchy–Schwarz, for any two lengths. The step needs `2·xyS ≤ x²B + y²A`: AM–GM, since `(xyS)² ≤ x²B · y²A` by induction. -/
theorem flatDot_sq_le (a b : List ℝ) : flatDot a b ^ 2 ≤ flatDot a a * flatDot b b := by
  induction a generalizing b with
  | nil => simp only [flatDot_nil_left, zero_mul]; norm_num
  | cons x a ih =>
    cases b with
    | nil => simp only [flatDot_nil_right, mul_zero]; norm_num
    | cons y b =>
      have h1 := mul_le_mul_of_nonneg_left (ih b) (sq_nonneg (x * y))
      have h2 := two_mul_le_add_of_sq_le_mul (r := x * y * flatDot a b)
        (mul_nonneg (sq_nonneg x) (flatDot_self_nonneg b)) (mul_nonneg (sq_nonneg y) (flatDot_self_nonneg a))
        (by linarith [h1])
      simp only [flatDot_cons]
      linarith [ih b, h2]

theorem flatSq_eq_dot_sub (a b : List ℝ) : flatSq a b = flatDot (blockSub a b) (blockSub a b) :=
  ((blockDot_eq _ _).symm.trans (blockSq_eq a b)).symm

/-- `‖a - c‖² = ‖a - b‖² + 2⟨a - b, b - c⟩ + ‖b - c‖²` -/
theorem flatSq_add (a b c : List ℝ) (hab : a.length = b.length) (hbc : b.length = c.length) :
    flatSq a c = flatSq a b + 2 * flatDot (blockSub a b) (blockSub b c) + flatSq b c := by
  induction a generalizing b c with
  | nil =>
    cases b with
    | nil => simp [flatSq_nil_left, blockSub, flatDot_nil_left]
    | cons _ _ => cases hab
  | cons x a ih =>
    match b, c, hab, hbc with
    | y :: b, z :: c, hab, hbc =>
      have := ih b c (Nat.succ.inj hab) (Nat.succ.inj hbc)
      simp only [flatSq_cons, blockSub, List.zipWith_cons_cons, flatDot_cons] at this ⊢
      rw [this]; ring

theorem euclidR_symm (a b : List ℝ) : euclidR a b = euclidR b a := by
  rw [euclidR, euclidR, flatSq_comm]

theorem euclidR_self (a : List ℝ) : euclidR a a = 0 := by
  rw [euclidR, flatSq_self, Real.sqrt_zero]

theorem euclidR_nonneg (a b : List ℝ) : 0 ≤ euclidR a b := Real.sqrt_nonneg _

/-- Minkowski from Cauchy–Schwarz: the cross term of `flatSq_add` is at most `√‖a - b‖² · √‖b - c‖²` -/
theorem euclidR_triangle (a b c : List ℝ) (hab : a.length = b.length) (hbc : b.length = c.length) :
    euclidR a c ≤ euclidR a b + euclidR b c := by
  have hU : 0 ≤ flatSq a b := flatSq_eq_dot_sub a b ▸ flatDot_self_nonneg _
  have hV : 0 ≤ flatSq b c := flatSq_eq_dot_sub b c ▸ flatDot_self_nonneg _
  have hX := Real.abs_le_sqrt (flatDot_sq_le (blockSub a b) (blockSub b c))
  rw [← flatSq_eq_dot_sub, ← flatSq_eq_dot_sub, Real.sqrt_mul hU] at hX
  unfold euclidR
  rw [Real.sqrt_le_iff, flatSq_add a b c hab hbc]
  refine ⟨add_nonneg (Real.sqrt_nonneg _) (Real.sqrt_nonneg _), ?_⟩
  rw [add_sq, Real.sq_sqrt hU, Real.sq_sqrt hV, mul_assoc]
  exact add_le_add_left (add_le_add_right (mul_le_mul_of_nonneg_left ((le_abs_self _).trans hX) zero_le_two) _) _

theorem cosineR_symm (a b : List ℝ) : cosineR a b = cosineR b a := by
  rw [cosineR, cosineR, flatDot_comm a b, mul_comm]

theorem cosineR_range (a b : List ℝ) (ha : flatDot a a ≠ 0) (hb : flatDot b b ≠ 0) :
    -1 ≤ cosineR a b ∧ cosineR a b ≤ 1 := by
  have hs : 0 < Real.sqrt (flatDot a a * flatDot b b) :=
    Real.sqrt_pos.2 (mul_pos ((flatDot_self_nonneg a).lt_of_ne' ha) ((flatDot_self_nonneg b).lt_of_ne' hb))
  rw [← abs_le, cosineR, abs_div, abs_of_pos hs, div_le_one hs]
  exact Real.abs_le_sqrt (flatDot_sq_le a b)

theorem cosineR_map_right (a b : List ℝ) (k : ℝ) : cosineR a (b.map (k * ·)) = k / |k| * cosineR a b := by
  unfold cosineR
  rw [flatDot_map_right, flatDot_map_left, flatDot_map_right,
    show flatDot a a * (k * (k * flatDot b b)) = k ^ 2 * (flatDot a a * flatDot b b) by ring,
    Real.sqrt_mul (sq_nonneg k), Real.sqrt_sq_eq_abs, mul_div_mul_comm]

theorem cosineR_self (a : List ℝ) (ha : flatDot a a ≠ 0) : cosineR a a = 1 := by
  rw [cosineR, Real.sqrt_mul_self (flatDot_self_nonneg a), div_self ha]

theorem cosineR_parallel (a : List ℝ) (k : ℝ) (hk : 0 < k) (ha : flatDot a a ≠ 0) : cosineR a (a.map (k * ·)) = 1 := by
  rw [cosineR_map_right, cosineR_self a ha, abs_of_pos hk, div_self hk.ne', mul_one]

theorem cosineR_opposite (a : List ℝ) (k : ℝ) (hk : k < 0) (ha : flatDot a a ≠ 0) : cosineR a (a.map (k * ·)) = -1 := by
  rw [cosineR_map_right, cosineR_self a ha, abs_of_neg hk, div_neg, div_self hk.ne, mul_one]

theorem cosineR_scale (a b : List ℝ) (k : ℝ) (hk : 0 < k) : cosineR (a.map (k * ·)) b = cosineR a b := by
  rw [cosineR_symm, cosineR_map_right, abs_of_pos hk, div_self hk.ne', one_mul, cosineR_symm]

end SimVerif.Feature
