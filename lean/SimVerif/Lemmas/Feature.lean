import SimVerif.Model.Feature
/-! The part of the feature lemmas that needs no Mathlib; `Lemmas/FeatureReal.lean` is the part that needs `Real.sqrt`. -/
namespace SimVerif.Feature
open List

section Blocks
variable {α : Type} [Zero α] [Add α] [Mul α]

theorem blockDot_eq (b1 b2 : List α) : lsum (blockMul b1 b2) = blockDot b1 b2 := by
  rw [blockDot, map_zip_eq_zipWith]; rfl

theorem blockSq_eq [Sub α] (b1 b2 : List α) : lsum (blockMul (blockSub b1 b2) (blockSub b1 b2)) = blockSq b1 b2 := by
  rw [blockSq, map_zip_eq_zipWith, blockMul, zipWith_self, blockSub, map_zipWith]; rfl

end Blocks

/- `0 ↦ 8`: the empty vector gets a whole zero block (`part = 0 < lanes` at the end). The literal `8` is `lanes` =
`Gen.FEATURE_LANES_SIZE`, which `At.step` (`simp only`) and `At.flatten_finish` (`decide`) unfold against it; `C16_roundtrip` is
stated with the literal. -/
def padLen (m : Nat) : Nat := if m = 0 then 8 else (8 - m % 8) % 8

theorem padLen_of_mod_zero {n : Nat} (hn : 0 < n) (h0 : n % 8 = 0) : padLen n = 0 := by
  rw [padLen, if_neg (Nat.ne_of_gt hn), h0]

theorem padLen_eq {n : Nat} (h0 : n % 8 = 0 → n = 0) : padLen n = 8 - n % 8 := by
  unfold padLen
  split
  · subst n; rfl
  · rename_i hn
    exact Nat.mod_eq_of_lt (Nat.sub_lt (by decide) (Nat.pos_of_ne_zero fun h => hn (h0 h)))

theorem padLen_lt {n : Nat} (hn : n ≠ 0) : padLen n < 8 := by
  rw [padLen, if_neg hn]; exact Nat.mod_lt _ (by decide)

theorem add_padLen_mod (n : Nat) : (n + padLen n) % 8 = 0 := by
  by_cases h0 : n % 8 = 0
  · by_cases hn : n = 0
    · subst n; rfl
    · rw [padLen_of_mod_zero (Nat.pos_of_ne_zero hn) h0, Nat.add_zero, h0]
  · -- `n % 8` and what is missing to 8
    rw [padLen_eq (fun h => absurd h h0), ← Nat.mod_add_mod, Nat.add_sub_of_le (Nat.le_of_lt (Nat.mod_lt n (by decide)))]

theorem set_append_replicate {α : Type} (c : List α) (m : Nat) (z x : α) :
    (c ++ replicate (m + 1) z).set c.length x = (c ++ [x]) ++ replicate m z := by
  rw [replicate_succ, set_append_right _ _ (Nat.le_refl _), Nat.sub_self, set_cons_zero, append_assoc]; rfl

section Packing
variable {α : Type} [Zero α]

/-- `pack v = finish (packLoop v 0 ⟨[], zeros, 0⟩)` by `rfl` -/
def finish (st : PState α) : List (List α) := if st.part < lanes then st.feature ++ [st.acc] else st.feature

/-- `n` elements read, `c` those of the open block: a block has just been closed (`acc` is stale), or `c` sits in `acc`
padded with zeros. -/
inductive At : PState α → Nat → List α → Prop
  | closed (f a n) : 0 < n → n % 8 = 0 → At ⟨f, a, 8⟩ n []
  | filling (f c n) : c.length = n % 8 → (n % 8 = 0 → n = 0) →
      At ⟨f, c ++ replicate (8 - c.length) 0, c.length - 1⟩ n c

variable {st : PState α} {n : Nat} {c : List α}

theorem At.length_eq (h : At st n c) : c.length = n % 8 := by
  cases h with
  | closed _ _ _ _ h0 => exact h0.symm
  | filling _ _ _ hl _ => exact hl

theorem At.step (h : At st n c) (x : α) :
    packStep st n x =
      if c.length = 7 then ⟨st.feature ++ [c ++ [x]], c ++ [x], 8⟩
      else ⟨st.feature, (c ++ [x]) ++ replicate (8 - (c ++ [x]).length) 0, (c ++ [x]).length - 1⟩ := by
  have hacc : (if c.length = 0 then zeros else st.acc) = c ++ replicate (8 - c.length) 0 := by
    cases h with
    | closed => rfl
    | filling =>
      split
      · rename_i h0; rw [length_eq_zero_iff.mp h0]; rfl
      · rfl
  have hlt : c.length < 8 := h.length_eq ▸ Nat.mod_lt n (by decide)
  have hk : 8 - c.length = 8 - (c ++ [x]).length + 1 := by
    rw [length_append, length_singleton]
    exact (Nat.succ_pred_eq_of_pos (Nat.sub_pos_of_lt hlt)).symm
  simp only [packStep, lanes, Gen.FEATURE_LANES_SIZE, ← h.length_eq, hacc, hk, set_append_replicate]
  split
  · rename_i h7
    rw [length_append, length_singleton, h7, replicate_zero, append_nil]
  · rw [length_append, length_singleton, Nat.add_sub_cancel]

theorem At.next (h : At st n c) (x : α) :
    At (packStep st n x) (n + 1) (if c.length = 7 then [] else c ++ [x]) := by
  have hlt : c.length < 8 := h.length_eq ▸ Nat.mod_lt n (by decide)
  rw [h.step x]
  split
  · rename_i h7
    exact .closed _ _ _ n.succ_pos (by rw [Nat.add_mod, ← h.length_eq, h7])
  · rename_i h7
    have h1 : (c ++ [x]).length = (n + 1) % 8 := by
      rw [length_append, length_singleton, Nat.add_mod, ← h.length_eq]
      exact (Nat.mod_eq_of_lt (Nat.lt_of_le_of_ne hlt fun e => h7 (Nat.succ.inj e))).symm
    exact .filling _ _ _ h1 (fun h0 => by rw [← h1] at h0; simp at h0)

theorem At.flatten_finish (h : At st n c) :
    (finish st).flatten = st.feature.flatten ++ c ++ replicate (padLen n) 0 := by
  cases h with
  | closed f a n hn h0 =>
    rw [padLen_of_mod_zero hn h0, finish, if_neg (show ¬8 < lanes by decide)]
    simp
  | filling f c n hl h0 =>
    have hlt : c.length - 1 < lanes := Nat.lt_of_le_of_lt (Nat.sub_le _ _) (hl ▸ Nat.mod_lt n (by decide))
    rw [padLen_eq h0, ← hl, finish, if_pos hlt]
    simp

theorem flatten_finish_packLoop (rest : List α) (h : At st n c) :
    (finish (packLoop rest n st)).flatten =
      st.feature.flatten ++ c ++ rest ++ replicate (padLen (n + rest.length)) 0 := by
  induction rest generalizing n st c with
  | nil => simpa [packLoop] using h.flatten_finish
  | cons x rest ih =>
    rw [packLoop, ih (h.next x), h.step x, length_cons, Nat.add_right_comm n, Nat.add_assoc n]
    split <;> simp

end Packing

end SimVerif.Feature
