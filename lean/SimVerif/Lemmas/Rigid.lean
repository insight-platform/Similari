import SimVerif.Lemmas.Geom
import Mathlib.Tactic.Ring
import Mathlib.Tactic.LinearCombination
/-!
# Rigid motions of the plane and the box frame

The polygon of a box is `rect hw hh` moved rigidly (`vertices_eq`), and `cross`, the squared distance and the shoelace
sum are invariant: a fact about the polygon is a fact about `rect`, where `c`, `s` and the centre do not occur.
`C08b.rigid` keeps its name: the statements of C08 mention it.
-/

namespace SimVerif.C08b
open SimVerif.Geom
variable {α : Type} [Field α]

/-- rotation by `(c, s)` about the origin followed by translation by `(tx, ty)` -/
def rigid (c s tx ty : α) (p : Pt α) : Pt α := (c * p.1 - s * p.2 + tx, s * p.1 + c * p.2 + ty)

end SimVerif.C08b

namespace SimVerif.Geom
open SimVerif.C08b
variable {α : Type} [Field α]

/-- coordinates of `p` in the frame with origin `(tx, ty)` and axes `(c, s)`, `(−s, c)` -/
def frame (c s tx ty : α) (p : Pt α) : Pt α :=
  ((p.1 - tx) * c + (p.2 - ty) * s, -(p.1 - tx) * s + (p.2 - ty) * c)

variable {c s : α} (tx ty : α)

theorem rigid_frame (h : c * c + s * s = 1) (p : Pt α) : rigid c s tx ty (frame c s tx ty p) = p := by
  refine Prod.ext ?_ ?_
  · simp only [rigid, frame]; linear_combination (p.1 - tx) * h
  · simp only [rigid, frame]; linear_combination (p.2 - ty) * h

/-- the difference of two images is the rotation of the difference -/
theorem rigid_sub_fst (c s : α) (p q : Pt α) :
    (rigid c s tx ty p).1 - (rigid c s tx ty q).1 = c * (p.1 - q.1) - s * (p.2 - q.2) := by
  simp only [rigid]; ring

theorem rigid_sub_snd (c s : α) (p q : Pt α) :
    (rigid c s tx ty p).2 - (rigid c s tx ty q).2 = s * (p.1 - q.1) + c * (p.2 - q.2) := by
  simp only [rigid]; ring

theorem rigid_distSq (h : c * c + s * s = 1) (p q : Pt α) :
    ((rigid c s tx ty p).1 - (rigid c s tx ty q).1) * ((rigid c s tx ty p).1 - (rigid c s tx ty q).1) +
      ((rigid c s tx ty p).2 - (rigid c s tx ty q).2) * ((rigid c s tx ty p).2 - (rigid c s tx ty q).2)
      = (p.1 - q.1) * (p.1 - q.1) + (p.2 - q.2) * (p.2 - q.2) := by
  rw [rigid_sub_fst, rigid_sub_snd]
  exact rot_normSq h _ _

theorem rigid_centre_distSq (h : c * c + s * s = 1) (q : Pt α) :
    ((rigid c s tx ty q).1 - tx) * ((rigid c s tx ty q).1 - tx) +
      ((rigid c s tx ty q).2 - ty) * ((rigid c s tx ty q).2 - ty) = q.1 * q.1 + q.2 * q.2 := by
  simp only [rigid, add_sub_cancel_right]
  exact rot_normSq h _ _

/-- `cross` is a determinant of two differences -/
theorem cross_rigid (h : c * c + s * s = 1) (q p1 p2 : Pt α) :
    cross (rigid c s tx ty q) (rigid c s tx ty p1) (rigid c s tx ty p2) = cross q p1 p2 := by
  rw [cross, cross, rigid_sub_fst, rigid_sub_snd, rigid_sub_fst, rigid_sub_snd]
  exact rot_det h _ _ _ _

theorem rigid_lerp (c s : α) (a b : Pt α) (t : α) :
    rigid c s tx ty (a.1 + t * (b.1 - a.1), a.2 + t * (b.2 - a.2)) =
      ((rigid c s tx ty a).1 + t * ((rigid c s tx ty b).1 - (rigid c s tx ty a).1),
       (rigid c s tx ty a).2 + t * ((rigid c s tx ty b).2 - (rigid c s tx ty a).2)) := by
  refine Prod.ext ?_ ?_ <;> simp only [rigid] <;> ring

theorem rigid_rigid (c s tx ty cb sb x y : α) (p : Pt α) :
    rigid c s tx ty (rigid cb sb x y p) =
      rigid (c * cb - s * sb) (s * cb + c * sb) (c * x - s * y + tx) (s * x + c * y + ty) p := by
  refine Prod.ext ?_ ?_ <;> simp only [rigid] <;> ring

theorem det_add (a e b d tx ty : α) :
    (a + tx) * (d + ty) - (b + tx) * (e + ty) = a * d - b * e + (tx * d - ty * b) - (tx * e - ty * a) := by ring

/-- a summand of the shoelace sum: the rotation keeps it (`rot_det`), the translation adds the difference of one function at
its two points (`det_add`) … -/
theorem det_rigid (h : c * c + s * s = 1) (p q : Pt α) :
    (rigid c s tx ty p).1 * (rigid c s tx ty q).2 - (rigid c s tx ty q).1 * (rigid c s tx ty p).2 =
      p.1 * q.2 - q.1 * p.2 + (tx * (s * q.1 + c * q.2) - ty * (c * q.1 - s * q.2))
        - (tx * (s * p.1 + c * p.2) - ty * (c * p.1 - s * p.2)) := by
  simp only [rigid]
  rw [det_add, mul_comm (c * q.1 - s * q.2), rot_det h, mul_comm p.2]

theorem add_sub_telescope (d S gf gp gq : α) : d + gq - gp + (S + gf - gq) = d + S + gf - gp := by ring

/-- … so along the ring from `p` back to `f` the additions telescope -/
theorem shoelace2Aux_rigid (h : c * c + s * s = 1) (f p : Pt α) (l : List (Pt α)) :
    shoelace2Aux (rigid c s tx ty f) ((p :: l).map (rigid c s tx ty))
      = shoelace2Aux f (p :: l)
        + (tx * (s * f.1 + c * f.2) - ty * (c * f.1 - s * f.2))
        - (tx * (s * p.1 + c * p.2) - ty * (c * p.1 - s * p.2)) := by
  induction l generalizing p with
  | nil => simp only [List.map_cons, List.map_nil, shoelace2Aux, det_rigid tx ty h]
  | cons q rest ih =>
    simp only [List.map_cons] at ih ⊢
    simp only [shoelace2Aux, ih q, det_rigid tx ty h]
    exact add_sub_telescope _ _ _ _ _

theorem shoelace2_rigid (h : c * c + s * s = 1) (poly : List (Pt α)) :
    shoelace2 (poly.map (rigid c s tx ty)) = shoelace2 poly := by
  cases poly with
  | nil => rfl
  | cons p l => exact (shoelace2Aux_rigid tx ty h p p l).trans (add_sub_cancel_right _ _)

/-- the corners of `[-hw, hw] × [-hh, hh]`, in the order of `vertices` -/
def rect (hw hh : α) : List (Pt α) := [(-hw, hh), (hw, hh), (hw, -hh), (-hw, -hh)]

theorem vertices_eq (u : UBox α) (c s : α) :
    vertices u c s = (rect (u.height * u.aspect / two) (u.height / two)).map (rigid c s u.xc u.yc) := by
  simp only [vertices, rect, rigid, List.map_cons, List.map_nil, List.cons.injEq, Prod.mk.injEq, and_true]
  refine ⟨⟨?_, ?_⟩, ⟨?_, ?_⟩, ⟨?_, ?_⟩, ⟨?_, ?_⟩⟩ <;> ring

/-- the coordinates of the corners `vertices` writes are `x ± a`, `x ± b` -/
theorem sum_plus_minus (x a b : α) : x + a + (x + b + (x - a + (x - b + 0))) = 4 * x := by ring

theorem rect_normSq (hw hh : α) : ∀ q ∈ rect hw hh, q.1 * q.1 + q.2 * q.2 = hw * hw + hh * hh := by
  intro q hq
  simp only [rect, List.mem_cons, List.not_mem_nil, or_false] at hq
  rcases hq with rfl | rfl | rfl | rfl <;> ring

theorem shoelace2_rect (hw hh : α) : shoelace2 (rect hw hh) = -(8 * (hw * hh)) := by
  simp only [rect, shoelace2, shoelace2Aux]
  ring

end SimVerif.Geom
