import SimVerif.Model.Assign
import SimVerif.Lemmas.Voting
import Mathlib.Algebra.BigOperators.Group.List.Basic
/-!
# The enumeration `AssignX.allAssign`, the optimum `AssignX.best` as a maximum, and the table read as a multiset

The enumeration holds exactly the one-to-one partial assignments into the track list (`mem_allAssign_iff`), `best`
is the greatest objective among them, and with distinct (detection, track) pairs nothing read off a table depends
on its order. `C05.PairsNodup` and `C05L.reread` stand in the namespaces the property statements name them in.
-/
namespace SimVerif.C05
open SimVerif.AssignX

/-- no (detection, track) pair occurs twice in the table (the trackers compute one distance per pair) -/
def PairsNodup (s : List Entry) : Prop := (s.map (fun e => (e.q, e.t))).Nodup

end SimVerif.C05

namespace SimVerif.AssignX
open SimVerif.C05 SimVerif.ListFacts List
open SimVerif.Voting (firsts_nodup mem_firsts)

theorem allAssign_none_cons (q : Nat) (qs ts : List Nat) (rest : List (Option Nat)) :
    none :: rest ∈ allAssign (q :: qs) ts ↔ rest ∈ allAssign qs ts := by
  rw [allAssign, mem_append, mem_map, mem_flatMap]
  constructor
  · rintro (⟨r, hr, e⟩ | ⟨t, _, h⟩)
    · cases e; exact hr
    · obtain ⟨r, _, e⟩ := mem_map.mp h; cases e
  · exact fun h => Or.inl ⟨rest, h, rfl⟩

/-- the track taken is no longer offered to the rest -/
theorem allAssign_some_cons (q x : Nat) (qs ts : List Nat) (rest : List (Option Nat)) :
    some x :: rest ∈ allAssign (q :: qs) ts ↔ x ∈ ts ∧ rest ∈ allAssign qs (ts.filter (· != x)) := by
  rw [allAssign, mem_append, mem_map, mem_flatMap]
  constructor
  · rintro (⟨r, _, e⟩ | ⟨t, ht, h⟩)
    · cases e
    · obtain ⟨r, hr, e⟩ := mem_map.mp h
      cases e
      exact ⟨ht, hr⟩
  · exact fun h => Or.inr ⟨x, h.1, mem_map.mpr ⟨rest, h.2, rfl⟩⟩

theorem mem_allAssign_iff (qs ts : List Nat) (hts : ts.Nodup) (a : List (Option Nat)) :
    a ∈ allAssign qs ts ↔
      a.length = qs.length ∧ (∀ x ∈ a.filterMap id, x ∈ ts) ∧ (a.filterMap id).Nodup := by
  induction qs generalizing ts a with
  | nil =>
    rw [allAssign, mem_singleton]
    constructor
    · rintro rfl; exact ⟨rfl, fun x hx => absurd hx not_mem_nil, nodup_nil⟩
    · intro h; exact length_eq_zero_iff.mp h.1
  | cons q qs ih =>
    cases a with
    | nil => simp [allAssign]
    | cons o rest =>
      cases o with
      | none =>
        rw [allAssign_none_cons, ih ts hts, show (none :: rest).filterMap id = rest.filterMap id from rfl, length_cons,
          length_cons, Nat.add_right_cancel_iff]
      | some x =>
        rw [allAssign_some_cons, ih _ (hts.filter _),
          show (some x :: rest).filterMap id = x :: rest.filterMap id from rfl]
        simp only [mem_filter, bne_iff_ne, length_cons, Nat.add_right_cancel_iff, mem_cons, forall_eq_or_imp,
          nodup_cons]
        constructor
        · rintro ⟨hx, hl, hin, hnd⟩
          exact ⟨hl, ⟨hx, fun y hy => (hin y hy).1⟩, fun hm => (hin x hm).2 rfl, hnd⟩
        · rintro ⟨hl, ⟨hx, hin⟩, hnx, hnd⟩
          exact ⟨hx, hl, fun y hy => ⟨hin y hy, fun e => hnx (e ▸ hy)⟩, hnd⟩

theorem mem_allAssign_table (s : List Entry) (a : List (Option Nat)) :
    a ∈ allAssign (queries s) (tracks s) ↔
      a.length = (queries s).length ∧ (∀ x ∈ a.filterMap id, x ∈ tracks s) ∧ (a.filterMap id).Nodup :=
  mem_allAssign_iff _ _ (firsts_nodup _) a

theorem mem_tracks (s : List Entry) (t : Nat) : t ∈ tracks s ↔ ∃ e ∈ s, e.t = t := by
  unfold tracks
  rw [mem_firsts, mem_map]

theorem mem_tracks_of_mem {s : List Entry} {e : Entry} (he : e ∈ s) : e.t ∈ tracks s :=
  (mem_tracks s e.t).mpr ⟨e, he, rfl⟩

theorem le_best (s : List Entry) (thr : Int) (a : List (Option Nat)) (h : a ∈ allAssign (queries s) (tracks s)) :
    objective s thr (queries s) a ≤ best s thr :=
  foldl_max_ge _ _ _ (Or.inl (mem_map.mpr ⟨a, h, rfl⟩))

theorem best_attained (s : List Entry) (thr : Int) :
    ∃ a ∈ allAssign (queries s) (tracks s), objective s thr (queries s) a = best s thr := by
  have hnone : (queries s).map (fun _ => (none : Option Nat)) ∈ allAssign (queries s) (tracks s) := by
    have e : ((queries s).map (fun _ => (none : Option Nat))).filterMap id = [] := by simp
    rw [mem_allAssign_table, e]
    exact ⟨length_map _, fun x hx => absurd hx not_mem_nil, nodup_nil⟩
  unfold best
  rcases foldl_max_mem ((allAssign (queries s) (tracks s)).map (objective s thr (queries s)))
      (objective s thr (queries s) ((queries s).map (fun _ => none))) with h | h
  · exact ⟨_, hnone, h.symm⟩
  · obtain ⟨a, ha, hao⟩ := mem_map.mp h
    exact ⟨a, ha, hao⟩

theorem weightOf_of_mem (s : List Entry) (hnd : PairsNodup s)
    (e : Entry) (he : e ∈ s) : weightOf s e.q e.t = e.w := by
  unfold weightOf
  cases hf : s.reverse.find? (fun e' => e'.q == e.q && e'.t == e.t) with
  | none =>
    rw [find?_eq_none] at hf
    have := hf e (mem_reverse.mpr he)
    simp at this
  | some e' =>
    have hp := find?_some hf
    have hm : e' ∈ s := mem_reverse.mp (mem_of_find?_eq_some hf)
    simp only [Bool.and_eq_true, beq_iff_eq] at hp
    have : e' = e := inj_on_of_nodup_map hnd hm he (by simp [hp.1, hp.2])
    simp [this]

theorem weightOf_of_not_mem (s : List Entry) (q t : Nat)
    (h : ∀ e ∈ s, ¬ (e.q = q ∧ e.t = t)) : weightOf s q t = 0 := by
  unfold weightOf
  have : s.reverse.find? (fun e => e.q == q && e.t == t) = none := by
    rw [find?_eq_none]
    intro e he
    simpa using h e (mem_reverse.mp he)
  rw [this]

theorem weightOf_perm (s₁ s₂ : List Entry) (h : s₁ ~ s₂) (hnd : PairsNodup s₁) (q t : Nat) :
    weightOf s₁ q t = weightOf s₂ q t := by
  have hnd2 : PairsNodup s₂ := (h.map _).nodup_iff.mp hnd
  by_cases hex : ∃ e ∈ s₁, e.q = q ∧ e.t = t
  · obtain ⟨e, he, rfl, rfl⟩ := hex
    rw [weightOf_of_mem s₁ hnd e he, weightOf_of_mem s₂ hnd2 e (h.mem_iff.mp he)]
  · have h1 : ∀ e ∈ s₁, ¬ (e.q = q ∧ e.t = t) := fun e he hc => hex ⟨e, he, hc⟩
    rw [weightOf_of_not_mem s₁ q t h1, weightOf_of_not_mem s₂ q t (fun e he => h1 e (h.mem_iff.mpr he))]

theorem queries_perm (s₁ s₂ : List Entry) (h : s₁ ~ s₂) : queries s₁ ~ queries s₂ :=
  Voting.firsts_perm (h.map _)

theorem tracks_perm (s₁ s₂ : List Entry) (h : s₁ ~ s₂) : tracks s₁ ~ tracks s₂ :=
  Voting.firsts_perm (h.map _)

def summand (s : List Entry) (thr : Int) (p : Nat × Option Nat) : Int :=
  match p.2 with
  | some t => weightOf s p.1 t
  | none => thr

theorem objective_eq_sum (s : List Entry) (thr : Int) (qs : List Nat) (a : List (Option Nat)) :
    objective s thr qs a = ((qs.zip a).map (summand s thr)).sum := by
  induction qs generalizing a with
  | nil => simp [objective]
  | cons q qs ih =>
    cases a with
    | nil => simp [objective]
    | cons o a =>
      cases o with
      | none => simp [objective, summand, ih]
      | some t => simp [objective, summand, ih]

theorem summand_perm (s₁ s₂ : List Entry) (h : s₁ ~ s₂) (hnd : PairsNodup s₁) (thr : Int) :
    summand s₁ thr = summand s₂ thr := by
  funext p
  rcases p with ⟨q, _ | t⟩
  · rfl
  · exact weightOf_perm s₁ s₂ h hnd q t

/-- the objective of the assignment read off a fixed function of the query is a sum over the queries,
hence invariant under a permutation of the table (distinct pairs) -/
theorem objective_fn_perm (s₁ s₂ : List Entry) (h : s₁ ~ s₂) (hnd : PairsNodup s₁) (thr : Int)
    (f : Nat → Option Nat) :
    objective s₁ thr (queries s₁) ((queries s₁).map f) = objective s₂ thr (queries s₂) ((queries s₂).map f) := by
  rw [objective_eq_sum, objective_eq_sum, ← map_prod_left_eq_zip, ← map_prod_left_eq_zip, map_map, map_map]
  rw [summand_perm s₁ s₂ h hnd thr]
  exact ((queries_perm s₁ s₂ h).map _).sum_eq

end SimVerif.AssignX

namespace SimVerif.C05L

/-- the track `a₁` (aligned with `qs₁`) gives query `q`; `none` if `q ∉ qs₁` -/
def reread (qs₁ : List Nat) (a₁ : List (Option Nat)) (q : Nat) : Option Nat :=
  ((qs₁.zip a₁).find? (fun p => p.1 == q)).bind (·.2)

end SimVerif.C05L

namespace SimVerif.AssignX
open SimVerif.C05L SimVerif.ListFacts List

theorem zip_eq_map_reread (qs₁ : List Nat) (a₁ : List (Option Nat)) (hnd : qs₁.Nodup)
    (hlen : a₁.length = qs₁.length) :
    qs₁.zip a₁ = qs₁.map (fun q => (q, reread qs₁ a₁ q)) := by
  have hfst : (qs₁.zip a₁).map Prod.fst = qs₁ := map_fst_zip (by omega)
  have h1 : (qs₁.zip a₁).map (fun p => (p.1, reread qs₁ a₁ p.1)) = qs₁.zip a₁ := by
    conv_rhs => rw [← map_id (qs₁.zip a₁)]
    apply map_congr_left
    intro p hp
    unfold reread
    rw [ListFacts.find?_key_of_nodup Prod.fst (by rw [hfst]; exact hnd) hp]
    rfl
  calc qs₁.zip a₁ = (qs₁.zip a₁).map (fun p => (p.1, reread qs₁ a₁ p.1)) := h1.symm
    _ = ((qs₁.zip a₁).map Prod.fst).map (fun q => (q, reread qs₁ a₁ q)) := by rw [map_map]; rfl
    _ = qs₁.map (fun q => (q, reread qs₁ a₁ q)) := by rw [hfst]

theorem zip_reread_perm (qs₁ qs₂ : List Nat) (a₁ : List (Option Nat)) (hnd : qs₁.Nodup)
    (hlen : a₁.length = qs₁.length) (hp : qs₁ ~ qs₂) :
    qs₂.zip (qs₂.map (reread qs₁ a₁)) ~ qs₁.zip a₁ := by
  rw [zip_eq_map_reread qs₁ a₁ hnd hlen, ← List.map_prod_left_eq_zip]
  exact (hp.map _).symm

end SimVerif.AssignX
