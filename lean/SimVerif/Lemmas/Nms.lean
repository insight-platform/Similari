import SimVerif.Model.Nms
import SimVerif.Lemmas.List
/-! `loop_eq_walk`: the excluded set of the double loop is the indices of the boxes a kept box covers; hence `nms_eq_walk`.
No Mathlib here or in `Props/C14`: C14 is proved in core Lean. -/
namespace SimVerif.Nms
variable {α : Type} (cov : Box α → Box α → Bool)

theorem mem_inner (cb : Box α × Nat) (obs : List (Box α × Nat)) (ex : List Nat) (x : Nat) :
    x ∈ inner cov cb obs ex ↔ x ∈ ex ∨ ∃ ob ∈ obs, ob.2 = x ∧ cov cb.1 ob.1 = true := by
  induction obs generalizing ex with
  | nil => simp [inner]
  | cons ob rest ih =>
    simp only [inner, List.mem_cons, exists_eq_or_imp]
    split
    · rename_i h
      have hP : ob.2 = x ∧ cov cb.1 ob.1 = true → x ∈ ex := fun ⟨e, _⟩ => e ▸ List.contains_iff_mem.mp h
      rw [ih, ← or_assoc, or_iff_left_of_imp hP]
    · split <;> rename_i hc
      · rw [ih, List.mem_cons, and_iff_left hc, or_assoc, or_left_comm, eq_comm]
      · rw [ih, or_iff_right (a := ob.2 = x ∧ cov cb.1 ob.1 = true) fun h => hc h.2]

theorem outer_mono (l : List (Box α × Nat)) (ex : List Nat) (x : Nat) (h : x ∈ ex) :
    x ∈ outer cov l ex := by
  induction l generalizing ex with
  | nil => simpa [outer]
  | cons cb rest ih =>
    unfold outer
    split
    · exact ih ex h
    · exact ih _ ((mem_inner cov cb rest ex x).mpr (Or.inl h))

theorem outer_only (l : List (Box α × Nat)) (ex : List Nat) (x : Nat) (h : x ∈ outer cov l ex) :
    x ∈ ex ∨ ∃ o ∈ l, o.2 = x := by
  induction l generalizing ex with
  | nil => exact Or.inl (by simpa [outer] using h)
  | cons cb rest ih =>
    unfold outer at h
    split at h
    · rcases ih ex h with h1 | ⟨o, ho, rfl⟩
      · exact Or.inl h1
      · exact Or.inr ⟨o, List.mem_cons_of_mem _ ho, rfl⟩
    · rcases ih _ h with h1 | ⟨o, ho, rfl⟩
      · rcases (mem_inner cov cb rest ex x).mp h1 with h2 | ⟨o, ho, rfl, _⟩
        · exact Or.inl h2
        · exact Or.inr ⟨o, List.mem_cons_of_mem _ ho, rfl⟩
      · exact Or.inr ⟨o, List.mem_cons_of_mem _ ho, rfl⟩

/-- `ex` holds the indices of the boxes of `l` that a box kept so far covers -/
theorem loop_eq_walk (l : List (Box α × Nat)) (ex : List Nat) (kept : List (Box α))
    (hnd : (l.map (·.2)).Nodup)
    (hex : ∀ o ∈ l, (o.2 ∈ ex ↔ kept.any (fun a => cov a o.1) = true)) :
    (l.filter (fun c => !(outer cov l ex).contains c.2)).map (·.1) = walk cov kept (l.map (·.1)) := by
  induction l generalizing ex kept with
  | nil => simp [walk]
  | cons cb rest ih =>
    rw [List.map_cons, List.nodup_cons] at hnd
    have hcb : ∀ o ∈ rest, o.2 ≠ cb.2 := fun o ho heq => hnd.1 (heq ▸ List.mem_map_of_mem (f := (·.2)) ho)
    have hrest := fun o ho => hex o (List.mem_cons_of_mem cb ho)
    have hhead := hex cb List.mem_cons_self
    rw [outer, List.map_cons, walk, List.filter_cons]
    by_cases hc : cb.2 ∈ ex
    · rw [if_pos (List.contains_iff_mem.mpr hc), if_pos (hhead.mp hc),
        if_neg (by simpa using outer_mono cov rest ex _ hc)]
      exact ih ex kept hnd.2 hrest
    · -- `cb` is kept: its index is fresh, so no later step excludes it
      have hnin : cb.2 ∉ outer cov rest (inner cov cb rest ex) := fun h => by
        rcases outer_only cov _ _ _ h with h1 | ⟨o, ho, heq⟩
        · rcases (mem_inner cov cb rest ex cb.2).mp h1 with h2 | ⟨o, ho, heq, _⟩
          · exact hc h2
          · exact hcb o ho heq
        · exact hcb o ho heq
      rw [if_neg (mt List.contains_iff_mem.mp hc), if_neg (mt hhead.mpr hc), if_pos (by simpa using hnin),
        List.map_cons, ih _ (cb.1 :: kept) hnd.2]
      intro o ho
      rw [mem_inner, List.any_cons, Bool.or_eq_true, hrest o ho, or_comm]
      refine or_congr_left ⟨fun ⟨o', ho', heq, hcv⟩ => ListFacts.nodup_map_inj hnd.2 ho' ho heq ▸ hcv,
        fun h => ⟨o, ho, rfl, h⟩⟩

theorem nms_eq_walk (scoreThr : Option Rat) (l : List (Box α)) :
    nms cov scoreThr l = walk cov [] ((l.filter (passes scoreThr)).mergeSort rankGE) := by
  unfold nms sortedCands
  have hperm := List.mergeSort_perm ((l.filter (passes scoreThr)).zipIdx) (fun a b => rankGE a.1 b.1)
  have hnd : ((((l.filter (passes scoreThr)).zipIdx).mergeSort (fun a b => rankGE a.1 b.1)).map (·.2)).Nodup :=
    (List.Perm.nodup_iff (hperm.map _)).mpr (List.zipIdx_map_snd 0 _ ▸ List.nodup_range')
  have := loop_eq_walk cov _ [] [] hnd (by intro o _; simp)
  simp only at this ⊢
  rw [this]
  congr 1
  rw [List.map_mergeSort (s := rankGE) (f := fun (p : Box α × Nat) => p.1)]
  · simp
  · intro a _ b _; rfl

theorem walk_sublist (kept l : List (Box α)) : (walk cov kept l).Sublist l := by
  induction l generalizing kept with
  | nil => simp [walk]
  | cons b rest ih =>
    unfold walk
    split
    · exact (ih kept).cons _
    · exact (ih _).cons_cons _

theorem walk_indep (kept l : List (Box α)) :
    (∀ b ∈ walk cov kept l, ∀ a ∈ kept, cov a b = false) ∧
    (walk cov kept l).Pairwise (fun a b => cov a b = false) := by
  induction l generalizing kept with
  | nil => simp [walk]
  | cons b rest ih =>
    unfold walk
    split
    · exact ih kept
    · rename_i h
      obtain ⟨h3, h4⟩ := ih (b :: kept)
      simp only [List.any_eq_true, not_exists, not_and, Bool.not_eq_true] at h
      refine ⟨?_, List.pairwise_cons.mpr ⟨fun x hx => h3 x hx b List.mem_cons_self, h4⟩⟩
      intro x hx a ha
      rcases List.mem_cons.mp hx with rfl | hx
      · exact h a ha
      · exact h3 x hx a (List.mem_cons_of_mem _ ha)

theorem walk_congr (k₁ k₂ l : List (Box α)) (h : ∀ x, x ∈ k₁ ↔ x ∈ k₂) :
    walk cov k₁ l = walk cov k₂ l := by
  induction l generalizing k₁ k₂ with
  | nil => simp [walk]
  | cons b rest ih =>
    unfold walk
    rw [ListFacts.any_congr_mem h]
    split
    · exact ih _ _ h
    · congr 1
      exact ih _ _ (fun x => by simp [h x])

theorem walk_append (kept l₁ l₂ : List (Box α)) :
    walk cov kept (l₁ ++ l₂) = walk cov kept l₁ ++ walk cov ((walk cov kept l₁).reverse ++ kept) l₂ := by
  induction l₁ generalizing kept with
  | nil => simp [walk]
  | cons b rest ih =>
    simp only [List.cons_append, walk]
    split
    · exact ih kept
    · rw [ih (b :: kept)]
      simp

theorem walk_fix (kept l : List (Box α))
    (h1 : ∀ b ∈ l, ∀ a ∈ kept, cov a b = false)
    (h2 : l.Pairwise (fun a b => cov a b = false)) : walk cov kept l = l := by
  induction l generalizing kept with
  | nil => simp [walk]
  | cons b rest ih =>
    unfold walk
    have : ¬ (kept.any (fun a => cov a b) = true) := by
      simp only [List.any_eq_true, not_exists, not_and, Bool.not_eq_true]
      exact fun a ha => h1 b List.mem_cons_self a ha
    rw [if_neg this]
    congr 1
    obtain ⟨h2a, h2b⟩ := List.pairwise_cons.mp h2
    apply ih _ _ h2b
    intro x hx a ha
    rcases List.mem_cons.mp ha with rfl | ha
    · exact h2a x hx
    · exact h1 x (List.mem_cons_of_mem _ hx) a ha

end SimVerif.Nms
