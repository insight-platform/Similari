import SimVerif.Lemmas.Tracker
/-!
# The picks of a call read and write a *view* of the live tracks, and frame the rest

`Q : Trk → Bool` is a view if it contains every track the call may touch: those a valid choice may continue (of the
scene, unexpired at the call's epoch) and those the call writes (of the scene, updated at the call's epoch). If B holds
A's `Q`-tracks — renamed by `ρ`, related by `r` (`ViewRel`) — the renamed picks do in B what the picks do in A
(`applyPicks_view`), and the tracks satisfying a predicate no touched track satisfies stay as they are
(`applyPicks_frame`). Garbage collection (`Q` = unexpired), scene isolation and the order of the scenes of a batch
(`Q` = of the scene), states that agree up to order (`Q` = all, `r` = `PermOld`) and the renaming of ids are instances.
-/
namespace SimVerif.Ren
open SimVerif.Tracker

def renTrk (ρ : Nat → Nat) (t : Trk) : Trk := { t with id := ρ t.id }
def renRec (ρ : Nat → Nat) (r : Rec) : Rec := { r with id := ρ r.id }
def renPick (ρ : Nat → Nat) : Pick → Pick
  | .cont tid vis => .cont (ρ tid) vis
  | .fresh id => .fresh (ρ id)

end SimVerif.Ren

namespace SimVerif.Tracker
open SimVerif.C01 SimVerif.C03 SimVerif.Ren SimVerif.ListFacts List

theorem map_renTrk_ident (l : List Trk) : l.map (renTrk id) = l := by
  rw [show renTrk id = id from rfl, List.map_id]
theorem map_renRec_ident (l : List Rec) : l.map (renRec id) = l := by
  rw [show renRec id = id from rfl, List.map_id]
theorem map_renPick_ident (l : List Pick) : l.map (renPick id) = l := by
  rw [show renPick id = id from funext (fun p => by cases p <;> rfl), List.map_id]

theorem updTrk_ren (cA cB : Cfg) (hv : cA.visual = cB.visual) (ho : cA.maxObs = cB.maxObs) (hh : cA.histLen = cB.histLen)
    (ρ : Nat → Nat) (e : Nat) (d : Det) (vis : Bool) (t : Trk) :
    updTrk cB e d vis (renTrk ρ t) = renTrk ρ (updTrk cA e d vis t) := by
  cases cA; cases cB
  dsimp only at hv ho hh
  subst hv ho hh
  rfl

theorem newTrk_ren (cA cB : Cfg) (hv : cA.visual = cB.visual)
    (ρ : Nat → Nat) (scene e : Nat) (d : Det) (id : Nat) :
    newTrk cB scene e d (ρ id) = renTrk ρ (newTrk cA scene e d id) := by
  cases cA; cases cB
  dsimp only at hv
  subst hv
  rfl

theorem findLive_filter (st : St) (Q : Trk → Bool) (tid : Nat) (h : ∀ x ∈ st.live, x.id = tid → Q x = true) :
    (st.live.filter Q).find? (fun x => x.id == tid) = findLive st tid := by
  rw [find?_filter]
  apply find?_congr
  intro x hx
  by_cases hxi : x.id = tid
  · simp [hxi, h x hx hxi]
  · simp [hxi]

/-- *the tracks a call may still touch have `P`*: every live track that carries the id of a continuation
still to be applied. With unique ids these are the tracks the choice continues; stated so, it is kept
by a pick whatever ids the new tracks get. -/
def Touched (P : Trk → Prop) (st : St) (picks : List Pick) : Prop :=
  ∀ tid vis, Pick.cont tid vis ∈ picks → ∀ x ∈ st.live, x.id = tid → P x

theorem touched_of_nodup {P : Trk → Prop} {st : St} {picks : List Pick} (hnd : (st.live.map (·.id)).Nodup)
    (hc : ∀ tid vis, Pick.cont tid vis ∈ picks → ∃ t, findLive st tid = some t ∧ P t) : Touched P st picks := by
  intro tid vis hp x hx hxid
  obtain ⟨t, hf, ht⟩ := hc tid vis hp
  rwa [find_id_unique st.live hnd tid x t hx hxid hf]

theorem applyPick_touched {cfg : Cfg} {scene e : Nat} {st st' : St} {d : Det} {p : Pick} {r : Rec}
    (h : applyPick cfg scene e st d p = some (st', r)) {P : Trk → Prop}
    (hP : ∀ t vis, P t → P (updTrk cfg e d vis t)) (hnew : ∀ id, P (newTrk cfg scene e d id)) {ps : List Pick}
    (hK : Touched P st (p :: ps)) : Touched P st' ps := by
  intro tid2 vis2 hp2 x hx hxid
  obtain ⟨tid, vis, t, rfl, hf, rfl, rfl⟩ | ⟨id, rfl, rfl, rfl⟩ := applyPick_cases h
  · obtain ⟨x0, hx0, rfl⟩ := mem_map.mp hx
    by_cases h0 : (x0.id == tid) = true
    · rw [if_pos h0]
      exact hP t vis (hK tid vis mem_cons_self t (findLive_mem _ _ _ hf) (findLive_id _ _ _ hf))
    · rw [if_neg h0] at hxid ⊢
      exact hK tid2 vis2 (mem_cons_of_mem _ hp2) x0 hx0 hxid
  · rcases mem_append.mp hx with hx | hx
    · exact hK tid2 vis2 (mem_cons_of_mem _ hp2) x hx hxid
    · rw [mem_singleton.mp hx]; exact hnew id

/-- the relations between two views that a pick respects: related lists find the same track for every
id, and stay related when a map that keeps the ids is applied to both or a track is appended to both.
Equality is one (`ViewRel.eq`), equality up to the order of the tracks held before the call another
(`ViewRel.permOld`). -/
structure ViewRel (r : List Trk → List Trk → Prop) : Prop where
  find : ∀ {l₁ l₂ : List Trk}, r l₁ l₂ → ∀ k, l₁.find? (fun x => x.id == k) = l₂.find? (fun x => x.id == k)
  map : ∀ (g : Trk → Trk), (∀ x, (g x).id = x.id) → ∀ {l₁ l₂ : List Trk}, r l₁ l₂ → r (l₁.map g) (l₂.map g)
  snoc : ∀ (x : Trk) {l₁ l₂ : List Trk}, r l₁ l₂ → r (l₁ ++ [x]) (l₂ ++ [x])

theorem ViewRel.eq : ViewRel Eq :=
  ⟨fun h _ => h ▸ rfl, fun g _ _ _ h => congrArg (List.map g) h, fun x _ _ h => congrArg (· ++ [x]) h⟩

/-- the same tracks up to the order of those held before the call (whose ids are unique), the tracks
started during the call after them in the same order -/
def PermOld (l₁ l₂ : List Trk) : Prop :=
  ∃ A B N, l₁ = A ++ N ∧ l₂ = B ++ N ∧ A ~ B ∧ (A.map (·.id)).Nodup

theorem PermOld.perm {l₁ l₂ : List Trk} (h : PermOld l₁ l₂) : l₁ ~ l₂ := by
  obtain ⟨A, B, N, rfl, rfl, hp, _⟩ := h
  exact hp.append_right N

theorem PermOld.of_perm {l₁ l₂ : List Trk} (h : l₁ ~ l₂) (hnd : (l₁.map (·.id)).Nodup) : PermOld l₁ l₂ :=
  ⟨l₁, l₂, [], (append_nil _).symm, (append_nil _).symm, h, hnd⟩

theorem ViewRel.permOld : ViewRel PermOld where
  find := by
    rintro _ _ ⟨A, B, N, rfl, rfl, hp, hnd⟩ k
    have hndB : (B.map (·.id)).Nodup := ((hp.map (·.id)).nodup_iff).mp hnd
    rw [find?_append, find?_append]
    congr 1
    cases hA : A.find? (fun x => x.id == k) with
    | none =>
      symm
      rw [find?_eq_none] at hA ⊢
      exact fun x hx => hA x (hp.mem_iff.mpr hx)
    | some t =>
      have hk : t.id = k := by simpa using find?_some hA
      rw [← hk]
      exact (find_of_mem_nodup B hndB t (hp.mem_iff.mp (mem_of_find?_eq_some hA))).symm
  map := by
    rintro g hg _ _ ⟨A, B, N, rfl, rfl, hp, hnd⟩
    refine ⟨A.map g, B.map g, N.map g, map_append, map_append, hp.map g, ?_⟩
    rwa [map_map, show ((fun t : Trk => t.id) ∘ g) = (fun t : Trk => t.id) from funext hg]
  snoc := by
    rintro x _ _ ⟨A, B, N, rfl, rfl, hp, hnd⟩
    exact ⟨A, B, N ++ [x], append_assoc _ _ _, append_assoc _ _ _, hp, hnd⟩

/-- what A finds under `tid`, a `Q`-track, B's view finds renamed under `ρ tid` -/
theorem find_view (ρ : Nat → Nat) (Q : Trk → Bool) (a b : St)
    (hfind : ∀ k, (b.live.filter Q).find? (fun x => x.id == k) = ((a.live.filter Q).map (renTrk ρ)).find? (fun x => x.id == k))
    (tid : Nat) (t : Trk)
    (hf : findLive a tid = some t) (hinj : ∀ x ∈ a.live, ρ x.id = ρ tid → x.id = tid)
    (hKa : ∀ x ∈ a.live, x.id = tid → Q x = true) :
    (b.live.filter Q).find? (fun x => x.id == ρ tid) = some (renTrk ρ t) := by
  rw [hfind, find?_map, find?_congr (q := fun x => x.id == tid) (fun x hx => ?_), findLive_filter a Q tid hKa, hf]
  · rfl
  · exact beq_inj_on ρ x.id tid (hinj x (mem_filter.mp hx).1)

/-- … and so does B, if its tracks of that id are in the view … -/
theorem findLive_view_of_inj {r : List Trk → List Trk → Prop} (hr : ViewRel r) (ρ : Nat → Nat) (Q : Trk → Bool) (a b : St)
    (hrel : r (b.live.filter Q) ((a.live.filter Q).map (renTrk ρ))) (tid : Nat) (t : Trk)
    (hf : findLive a tid = some t) (hinj : ∀ x ∈ a.live, ρ x.id = ρ tid → x.id = tid)
    (hKa : ∀ x ∈ a.live, x.id = tid → Q x = true) (hKb : ∀ x ∈ b.live, x.id = ρ tid → Q x = true) :
    findLive b (ρ tid) = some (renTrk ρ t) := by
  rw [← findLive_filter b Q _ hKb]
  exact find_view ρ Q a b (hr.find hrel) tid t hf hinj hKa

/-- … or if ids are unique on both sides -/
theorem findLive_view_of_nodup (ρ : Nat → Nat) (Q : Trk → Bool) (a b : St)
    (hfind : ∀ k, (b.live.filter Q).find? (fun x => x.id == k) = ((a.live.filter Q).map (renTrk ρ)).find? (fun x => x.id == k))
    (hna : (a.live.map (·.id)).Nodup) (hnb : (b.live.map (·.id)).Nodup)
    (hinj : ∀ x ∈ a.live, ∀ y ∈ a.live, ρ x.id = ρ y.id → x.id = y.id)
    (tid : Nat) (t : Trk) (hf : findLive a tid = some t) (hq : Q t = true) : findLive b (ρ tid) = some (renTrk ρ t) := by
  have hti := findLive_id _ _ _ hf
  have h := find_view ρ Q a b hfind tid t hf (fun x hx => hti ▸ hinj x hx t (findLive_mem _ _ _ hf))
    (fun x hx hxi => by rwa [find_id_unique a.live hna tid x t hx hxi hf])
  have := find_of_mem_nodup b.live hnb _ (mem_filter.mp (mem_of_find?_eq_some h)).1
  rwa [show (renTrk ρ t).id = ρ tid from congrArg ρ hti] at this

theorem mem_map_renPick_cont {ρ : Nat → Nat} {picks : List Pick} {tid' : Nat} {vis : Bool}
    (hp : Pick.cont tid' vis ∈ picks.map (renPick ρ)) : ∃ tid, Pick.cont tid vis ∈ picks ∧ ρ tid = tid' := by
  obtain ⟨p, hpm, hpe⟩ := mem_map.mp hp
  cases p with
  | fresh id => cases hpe
  | cont tid vis0 => cases hpe; exact ⟨tid, hpm, rfl⟩

/-- replacing the tracks of one id commutes with a renaming that keeps this id apart from the others in the list -/
theorem map_replace_ren (ρ : Nat → Nat) (tid : Nat) (u : Trk) (l : List Trk)
    (hinj : ∀ x ∈ l, ρ x.id = ρ tid → x.id = tid) :
    (l.map (renTrk ρ)).map (fun x => if (x.id == ρ tid) = true then renTrk ρ u else x) =
      (l.map (fun x => if (x.id == tid) = true then u else x)).map (renTrk ρ) := by
  rw [map_map, map_map]
  apply map_congr_left
  intro x hx
  show (if (ρ x.id == ρ tid) = true then renTrk ρ u else renTrk ρ x) = renTrk ρ (if (x.id == tid) = true then u else x)
  rw [ListFacts.beq_inj_on ρ x.id tid (hinj x hx)]
  split <;> rfl

/-- **One pick on a view**: B's `Q`-tracks are A's renamed by `ρ`; the renamed pick does in B what the pick does in A. -/
theorem applyPick_view (cA cB : Cfg) (hv : cA.visual = cB.visual) (ho : cA.maxObs = cB.maxObs)
    (hh : cA.histLen = cB.histLen) (ρ : Nat → Nat) (scene e : Nat) (Q : Trk → Bool)
    {r : List Trk → List Trk → Prop} (hr : ViewRel r)
    (hQn : ∀ t : Trk, t.scene = scene → t.lastUpd = e → Q t = true)
    {d : Det} {p : Pick} {ps qs : List Pick} {a a1 : St} {r0 : Rec}
    (h1 : applyPick cA scene e a d p = some (a1, r0)) (b : St)
    (hrel : r (b.live.filter Q) ((a.live.filter Q).map (renTrk ρ)))
    (hinj : ∀ x ∈ a.live, ∀ y ∈ a.live, ρ x.id = ρ y.id → x.id = y.id)
    (hKa : Touched (fun t => t.scene = scene ∧ Q t = true) a (p :: ps))
    (hKb : Touched (fun t => t.scene = scene ∧ Q t = true) b (renPick ρ p :: qs)) :
    ∃ b1, applyPick cB scene e b d (renPick ρ p) = some (b1, renRec ρ r0) ∧
      r (b1.live.filter Q) ((a1.live.filter Q).map (renTrk ρ)) := by
  obtain ⟨tid, vis, t, rfl, hf, rfl, rfl⟩ | ⟨id, rfl, rfl, rfl⟩ := applyPick_cases h1
  · -- the continued track is a `Q`-track, found in B under its new name; the update commutes with
    -- the renaming and keeps the tracks of this id in the view
    have hta := hKa tid vis mem_cons_self
    have htb := hKb (ρ tid) vis mem_cons_self
    have htm := findLive_mem _ _ _ hf
    have hti := findLive_id _ _ _ hf
    have hinj' : ∀ x ∈ a.live, ρ x.id = ρ tid → x.id = tid := fun x hx => hti ▸ hinj x hx t htm
    have hfb := findLive_view_of_inj hr ρ Q a b hrel tid t hf hinj'
      (fun x hx hxi => (hta x hx hxi).2) (fun x hx hxi => (htb x hx hxi).2)
    have hs : t.scene = scene := (hta t htm hti).1
    refine ⟨_, applyPick_cont_eq cB scene e b d (ρ tid) vis (renTrk ρ t) hfb, ?_⟩
    rw [filter_map_replace_view Q tid _ (hQn (updTrk cA e d vis t) hs rfl) a.live (fun x hx hxi => (hta x hx hxi).2),
      filter_map_replace_view Q (ρ tid) _ (hQn (updTrk cB e d vis (renTrk ρ t)) hs rfl) b.live
        (fun x hx hxi => (htb x hx hxi).2),
      updTrk_ren cA cB hv ho hh, ← map_replace_ren ρ tid _ _ (fun x hx => hinj' x (mem_filter.mp hx).1)]
    refine hr.map _ (fun x => ?_) hrel
    split
    · rename_i hxi; exact (congrArg ρ hti).trans (beq_iff_eq.mp hxi).symm
    · rfl
  · have hqa : Q (newTrk cA scene e d id) = true := hQn _ rfl rfl
    have hqb : Q (newTrk cB scene e d (ρ id)) = true := hQn _ rfl rfl
    refine ⟨_, applyPick_fresh_eq cB scene e b d (ρ id), ?_⟩
    rw [filter_append, filter_append, map_append, filter_cons_of_pos hqb, filter_cons_of_pos hqa, filter_nil,
      map_cons, map_nil, ← newTrk_ren cA cB hv ρ scene e d id]
    exact hr.snoc _ hrel

/-- **`applyPicks` on a view.** B's `Q`-tracks are A's renamed by `ρ` (`r`: the same list, or up to order),
`ρ` injective on A's ids; the tracks the call may continue are `Q`-tracks of the scene on both sides, and
the tracks the call writes are `Q`-tracks. Then the renamed picks give B the renamed records, and B's
`Q`-tracks are A's renamed again. Two configurations, because a batch tracker is compared with a simple one:
`cA` and `cB` may differ in `batchIds` (`Ren.SameButIds`). -/
theorem applyPicks_view (cA cB : Cfg) (hv : cA.visual = cB.visual) (ho : cA.maxObs = cB.maxObs)
    (hh : cA.histLen = cB.histLen) (ρ : Nat → Nat) (scene e : Nat) (Q : Trk → Bool)
    {r : List Trk → List Trk → Prop} (hr : ViewRel r)
    (hQn : ∀ t : Trk, t.scene = scene → t.lastUpd = e → Q t = true)
    (dets : List Det) (picks : List Pick) (a a' : St) (recs : List Rec)
    (ha : applyPicks cA scene e dets picks a = some (a', recs)) (b : St)
    (hrel : r (b.live.filter Q) ((a.live.filter Q).map (renTrk ρ)))
    (hinj : ∀ x ∈ a.live.map (·.id) ++ freshIds picks, ∀ y ∈ a.live.map (·.id) ++ freshIds picks, ρ x = ρ y → x = y)
    (hKa : Touched (fun t => t.scene = scene ∧ Q t = true) a picks)
    (hKb : Touched (fun t => t.scene = scene ∧ Q t = true) b (picks.map (renPick ρ))) :
    ∃ b', applyPicks cB scene e dets (picks.map (renPick ρ)) b = some (b', recs.map (renRec ρ)) ∧
      r (b'.live.filter Q) ((a'.live.filter Q).map (renTrk ρ)) := by
  induction dets, picks, a, a', recs, ha using applyPicks_induction generalizing b with
  | nil a => exact ⟨b, rfl, hrel⟩
  | cons d ds p ps a a1 a' r0 rs h1 _ ih =>
    have hP : ∀ (c : Cfg) t vis, (t.scene = scene ∧ Q t = true) →
        ((updTrk c e d vis t).scene = scene ∧ Q (updTrk c e d vis t) = true) := fun c t vis ht => ⟨ht.1, hQn _ ht.1 rfl⟩
    obtain ⟨b1, hb1, hrel1⟩ := applyPick_view cA cB hv ho hh ρ scene e Q hr hQn h1 b hrel
      (fun x hx y hy => hinj _ (mem_append_left _ (mem_map_of_mem hx)) _ (mem_append_left _ (mem_map_of_mem hy))) hKa hKb
    obtain ⟨b2, hb2, hrel2⟩ := ih b1 hrel1 (by rw [applyPick_ids h1]; exact hinj)
      (applyPick_touched h1 (hP cA) (fun id => ⟨rfl, hQn _ rfl rfl⟩) hKa)
      (applyPick_touched hb1 (hP cB) (fun id => ⟨rfl, hQn _ rfl rfl⟩) hKb)
    exact ⟨b2, applyPicks_cons_eq cB scene e d ds _ _ b b1 b2 _ _ hb1 hb2, hrel2⟩

/-- **Frame.** `applyPicks` leaves the list of the tracks satisfying `N` as it is, when no track the call
may continue and no track it writes satisfies `N`. -/
theorem applyPicks_frame (cfg : Cfg) (scene e : Nat) (N : Trk → Bool)
    (hN : ∀ t : Trk, t.scene = scene → t.lastUpd = e → N t = false)
    (dets : List Det) (picks : List Pick) (a a' : St) (recs : List Rec)
    (ha : applyPicks cfg scene e dets picks a = some (a', recs))
    (hK : Touched (fun t => t.scene = scene ∧ N t = false) a picks) :
    a'.live.filter N = a.live.filter N := by
  induction dets, picks, a, a', recs, ha using applyPicks_induction with
  | nil a => rfl
  | cons d ds p ps a a1 a' r0 rs h1 _ ih =>
    rw [ih (applyPick_touched h1 (fun t vis ht => ⟨ht.1, hN _ ht.1 rfl⟩) (fun id => ⟨rfl, hN _ rfl rfl⟩) hK)]
    obtain ⟨tid, vis, t, rfl, hf, rfl, rfl⟩ | ⟨id, rfl, rfl, rfl⟩ := applyPick_cases h1
    · have ht := hK tid vis mem_cons_self
      exact filter_map_replace N tid (updTrk cfg e d vis t) (hN _ (ht t (findLive_mem _ _ _ hf) (findLive_id _ _ _ hf)).1 rfl) a.live
        (fun x hx hxid => (ht x hx hxid).2)
    · show (a.live ++ [_]).filter N = _
      rw [filter_append, filter_cons_of_neg (by simp [hN (newTrk cfg scene e d id) rfl rfl]), filter_nil, append_nil]

end SimVerif.Tracker
