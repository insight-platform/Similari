/-!
# Stable sort by a key

Every `sort_by` / `sorted_by` of the source compares a key into a linear order (`weight`, `quality`, `rank` decreasing; the epoch
gap increasing). The comparison `le` is a variable with its defining equation `h` as hypothesis, so that a named comparison
of the development (`wGE`, `qGE`, `rankGE`, `keyLE`) and a bare lambda are both passed with `fun _ _ => rfl`. Core Lean only (the
order classes of `Std`), so that the Mathlib-free modules can use it.
-/
namespace SimVerif.SortKey
open List
variable {α β : Type} [LE β] [DecidableLE β] [Std.IsLinearOrder β] (key : α → β) {le : α → α → Bool}

section desc
variable (h : ∀ a b, le a b = decide (key b ≤ key a))
include h

theorem desc_trans (a b c : α) : le a b = true → le b c = true → le a c = true := by
  simpa [h] using fun h1 h2 => Std.le_trans h2 h1
theorem desc_total (a b : α) : (le a b || le b a) = true := by
  simpa [h] using Std.le_total

theorem pairwise_mergeSort_desc (l : List α) : (l.mergeSort le).Pairwise (fun a b => key b ≤ key a) := by
  simpa [h] using pairwise_mergeSort (desc_trans key h) (desc_total key h) l

theorem mergeSort_desc_eq_of_perm {l₁ l₂ : List α} (hp : l₁ ~ l₂) (hd : ∀ a ∈ l₁, ∀ b ∈ l₁, key a = key b → a = b) :
    l₁.mergeSort le = l₂.mergeSort le := by
  have p1 := mergeSort_perm l₁ le
  have p2 := mergeSort_perm l₂ le
  refine (p1.trans (hp.trans p2.symm)).eq_of_pairwise (le := fun a b => key b ≤ key a) ?_
    (pairwise_mergeSort_desc key h l₁) (pairwise_mergeSort_desc key h l₂)
  exact fun a b ha hb hab hba => hd a (p1.subset ha) b (hp.symm.subset (p2.subset hb)) (Std.le_antisymm hba hab)

end desc

section asc
variable (h : ∀ a b, le a b = decide (key a ≤ key b))
include h

theorem asc_trans (a b c : α) : le a b = true → le b c = true → le a c = true := by
  simpa [h] using fun h1 h2 => Std.le_trans h1 h2
theorem asc_total (a b : α) : (le a b || le b a) = true := by
  simpa [h] using Std.le_total

theorem pairwise_mergeSort_asc (l : List α) : (l.mergeSort le).Pairwise (fun a b => key a ≤ key b) := by
  simpa [h] using pairwise_mergeSort (asc_trans key h) (asc_total key h) l

end asc

end SimVerif.SortKey
