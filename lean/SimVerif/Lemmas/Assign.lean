import Mathlib.Algebra.Order.BigOperators.Group.Finset
import Mathlib.Tactic.Linarith
/-!
# The cost matrix `SortVoting::winners` hands to `kuhn_munkres`, and what its optimal solutions decode to

Row `i` of the `c × (c + t)` matrix `M` is detection `i`; column `inl j` is detection `j`'s own column (worth the
threshold on the diagonal, 0 elsewhere), column `inr k` is track `k`. For `thr > 0` an optimal injective `σ` puts
every row on a column `good` for it (`decode_ok`) and decodes to an optimal one-to-one partial assignment
(`decode_optimal`). This is the solver's side (C02, C17). What the tracker model demands of a choice
(`validChoice`) is stated on lists, with `AssignX.best` (`Model/Assign.lean`); no theorem links the two.
-/
open Finset
namespace SimVerif.Assign
variable {c t : ℕ}

abbrev Col (c t : ℕ) := Fin c ⊕ Fin t

def M (thr : ℤ) (W : Fin c → Fin t → ℤ) (i : Fin c) : Col c t → ℤ
  | .inl j => if i = j then thr else 0
  | .inr k => W i k

def total (thr : ℤ) (W : Fin c → Fin t → ℤ) (σ : Fin c → Col c t) : ℤ := ∑ i, M thr W i (σ i)

structure IsOpt (thr : ℤ) (W : Fin c → Fin t → ℤ) (σ : Fin c → Col c t) : Prop where
  inj : Function.Injective σ
  max : ∀ τ : Fin c → Col c t, Function.Injective τ → total thr W τ ≤ total thr W σ

def good (thr : ℤ) (W : Fin c → Fin t → ℤ) (i : Fin c) : Col c t → Prop
  | .inl j => j = i
  | .inr k => thr ≤ W i k

instance (thr : ℤ) (W : Fin c → Fin t → ℤ) (i : Fin c) (x : Col c t) : Decidable (good thr W i x) := by
  cases x <;> unfold good <;> infer_instance

/-- a row on a column that is not good for it gains by moving to its own column (`thr > 0`) -/
theorem lt_own {thr : ℤ} {W : Fin c → Fin t → ℤ} (hthr : 0 < thr) (i : Fin c) (x : Col c t)
    (h : ¬ good thr W i x) : M thr W i x < M thr W i (.inl i) := by
  cases x with
  | inl j =>
    have : i ≠ j := fun e => h e.symm
    simp [M, this, hthr]
  | inr k =>
    simp only [good] at h
    simpa [M] using h

theorem decode_ok {thr : ℤ} {W : Fin c → Fin t → ℤ} {σ : Fin c → Col c t}
    (hthr : 0 < thr) (h : IsOpt thr W σ) (i : Fin c) : good thr W i (σ i) := by
  by_contra hbad
  -- send every row that is not on a good column to its own column: still injective, nowhere worse, better at `i`
  let τ : Fin c → Col c t := fun r => if good thr W r (σ r) then σ r else .inl r
  have hτinj : Function.Injective τ := by
    intro a b hab
    simp only [τ] at hab
    by_cases ha : good thr W a (σ a) <;> by_cases hb : good thr W b (σ b) <;> simp only [ha, hb, if_true] at hab
    · exact h.inj hab
    · rw [hab] at ha; exact (show b = a from ha).symm
    · rw [← hab] at hb; exact (show a = b from hb)
    · simpa using hab
  have hle : ∀ r ∈ (univ : Finset (Fin c)), M thr W r (σ r) ≤ M thr W r (τ r) := by
    intro r _
    simp only [τ]
    split
    · exact le_rfl
    · rename_i hr; exact (lt_own hthr r _ hr).le
  have hlt : M thr W i (σ i) < M thr W i (τ i) := by
    simp only [τ, hbad]
    exact lt_own hthr i _ hbad
  have : total thr W σ < total thr W τ := Finset.sum_lt_sum hle ⟨i, mem_univ _, hlt⟩
  have := h.max τ hτinj
  omega

/-- property-level assignment: each detection continues a track or stays unmatched -/
def obj (thr : ℤ) (W : Fin c → Fin t → ℤ) (m : Fin c → Option (Fin t)) : ℤ :=
  ∑ i, (match m i with | some k => W i k | none => thr)

def InjOnSome (m : Fin c → Option (Fin t)) : Prop := ∀ a b k, m a = some k → m b = some k → a = b

def embed (m : Fin c → Option (Fin t)) : Fin c → Col c t := fun i =>
  match m i with | some k => .inr k | none => .inl i

def decode (σ : Fin c → Col c t) : Fin c → Option (Fin t) := fun i =>
  match σ i with | .inr k => some k | .inl _ => none

theorem decode_eq_some {σ : Fin c → Col c t} {i : Fin c} {k : Fin t} : decode σ i = some k ↔ σ i = .inr k := by
  unfold decode
  cases σ i <;> simp

theorem embed_inj {m : Fin c → Option (Fin t)} (h : InjOnSome m) : Function.Injective (embed m) := by
  intro a b hab
  simp only [embed] at hab
  cases ha : m a <;> cases hb : m b <;> simp only [ha, hb] at hab
  · simpa using hab
  · cases hab
  · cases hab
  · rw [Sum.inr.injEq] at hab; subst hab; exact h a b _ ha hb

theorem total_embed (thr : ℤ) (W : Fin c → Fin t → ℤ) (m : Fin c → Option (Fin t)) :
    total thr W (embed m) = obj thr W m := by
  unfold total obj
  refine Finset.sum_congr rfl (fun i _ => ?_)
  simp only [embed]
  cases m i <;> simp [M]

theorem total_eq_obj_decode {thr : ℤ} {W : Fin c → Fin t → ℤ} {σ : Fin c → Col c t}
    (hg : ∀ i, good thr W i (σ i)) : total thr W σ = obj thr W (decode σ) := by
  unfold total obj
  refine Finset.sum_congr rfl (fun i _ => ?_)
  have := hg i
  simp only [decode]
  cases hσ : σ i with
  | inl j => rw [hσ] at this; simp only [good] at this; subst this; simp [M]
  | inr k => simp [M]

theorem decode_optimal {thr : ℤ} {W : Fin c → Fin t → ℤ} {σ : Fin c → Col c t}
    (hthr : 0 < thr) (h : IsOpt thr W σ) :
    InjOnSome (decode σ) ∧ (∀ i k, decode σ i = some k → thr ≤ W i k) ∧
    (∀ m : Fin c → Option (Fin t), InjOnSome m → obj thr W m ≤ obj thr W (decode σ)) := by
  have hg := decode_ok hthr h
  refine ⟨?_, ?_, ?_⟩
  · intro a b k ha hb
    exact h.inj ((decode_eq_some.mp ha).trans (decode_eq_some.mp hb).symm)
  · intro i k hk
    have := hg i
    rwa [decode_eq_some.mp hk] at this
  · intro m hm
    have h1 := h.max (embed m) (embed_inj hm)
    rw [total_embed, total_eq_obj_decode hg] at h1
    exact h1

end SimVerif.Assign
