import SimVerif.Lemmas.TrackerScene
import SimVerif.Lemmas.TrackerIds
/-!
# A property of every track held is kept by every operation

A predicate `P` on tracks that is kept by `updTrk` and holds for every `newTrk` is kept, as `AllT P`, by every
operation of the tracker (`Props/C13b.lean`: the bounds on galleries and histories).
-/
namespace SimVerif.C13
open SimVerif.Tracker SimVerif.C03 List

def AllT (P : Trk → Prop) (st : St) : Prop := ∀ t ∈ st.live ++ st.wasted, P t

variable {P : Trk → Prop}

theorem AllT.of_subset {a b : St} (h : AllT P a) (hs : ∀ t ∈ b.live ++ b.wasted, t ∈ a.live ++ a.wasted) : AllT P b :=
  fun t ht => h t (hs t ht)

theorem AllT.congr {a b : St} (h : AllT P a) (hl : b.live = a.live) (hw : b.wasted = a.wasted) : AllT P b := by
  unfold AllT at *
  rw [hl, hw]; exact h

theorem AllT.empty : AllT P {} := fun t ht => by simp at ht

theorem AllT.setEpoch {st : St} (hi : AllT P st) (s e : Nat) : AllT P (setEpoch st s e) :=
  hi.congr rfl rfl

theorem AllT.collect (cfg : Cfg) {st : St} (hi : AllT P st) : AllT P (collect cfg st) :=
  hi.of_subset (fun _ ht => (collect_perm cfg st).subset ht)

theorem AllT.awStep (cfg : Cfg) {st : St} (hi : AllT P st) : AllT P (awStep cfg st) := by
  rcases awStep_eq cfg st with h | h <;> rw [h]
  · exact (hi.collect cfg).congr rfl rfl
  · exact hi.congr rfl rfl

theorem AllT.skip (cfg : Cfg) {st : St} (hi : AllT P st) (scene n : Nat) : AllT P (skip cfg st scene n) :=
  (hi.setEpoch scene _).collect cfg

theorem AllT.wastedOp (cfg : Cfg) {st : St} (hi : AllT P st) : AllT P (wastedOp cfg st).1 :=
  (hi.collect cfg).of_subset fun t ht => by
    rw [wastedOp_live, wastedOp_wasted, append_nil] at ht
    exact mem_append_left _ ht

theorem AllT.clearWasted {st : St} (hi : AllT P st) : AllT P (clearWasted st) :=
  hi.of_subset fun t ht => by
    rw [show (Tracker.clearWasted st).wasted = [] from rfl, append_nil] at ht
    exact mem_append_left _ ht

theorem AllT.setAutoWaste {st : St} (hi : AllT P st) (p : Nat) : AllT P (setAutoWaste st p) :=
  hi.congr rfl rfl

section picks
variable {cfg : Cfg} (hupd : ∀ t, P t → ∀ e d vis, P (updTrk cfg e d vis t))
  (hnew : ∀ scene e d id, P (newTrk cfg scene e d id))
include hupd hnew

theorem AllT.applyPick {scene e : Nat} {st st' : St} {d : Det} {p : Pick} {r : Rec}
    (h : applyPick cfg scene e st d p = some (st', r)) (hi : AllT P st) : AllT P st' := by
  intro x hx
  obtain ⟨tid, vis, t, rfl, hf, rfl, rfl⟩ | ⟨id, rfl, rfl, rfl⟩ := applyPick_cases h
  · rcases mem_append.mp hx with hx | hx
    · obtain ⟨y, hy, rfl⟩ := mem_map.mp hx
      split
      · exact hupd t (hi t (mem_append_left _ (findLive_mem st tid t hf))) e d vis
      · exact hi y (mem_append_left _ hy)
    · exact hi x (mem_append_right _ hx)
  · rcases mem_append.mp hx with hx | hx
    · rcases mem_append.mp hx with hx | hx
      · exact hi x (mem_append_left _ hx)
      · rw [mem_singleton.mp hx]; exact hnew scene e d id
    · exact hi x (mem_append_right _ hx)

theorem AllT.sceneStep {valid : St → Nat → Bool} {st st' : St} {scene : Nat} {dets : List Det} {picks : List Pick}
    {lo hi : Nat} {recs : List Rec} (h : sceneStep cfg valid st scene dets picks lo hi = some (st', recs))
    (hinv : AllT P st) : AllT P st' := by
  have h0 := hinv.setEpoch scene (epochOf st scene + 1)
  have hap := (sceneStep_parts h).2.2
  clear h
  generalize Tracker.setEpoch st scene (epochOf st scene + 1) = st2 at hap h0
  induction dets, picks, st2, st', recs, hap using applyPicks_induction with
  | nil st => exact h0
  | cons d ds p ps st st1 st' r rs h1 _ ih => exact ih (AllT.applyPick hupd hnew h1 h0)

theorem AllT.batchCall {st st' : St} {jobs : List SJob} {out : List (Nat × List Rec)}
    (h : batchCall cfg st jobs = some (st', out)) (hinv : AllT P st) : AllT P st' := by
  obtain ⟨s, hs, rfl⟩ := batchCall_some_iff.mp h
  clear h
  refine AllT.congr ?_ rfl rfl
  have h0 := hinv.awStep cfg
  generalize Tracker.awStep cfg st = st1 at hs h0
  generalize st1.nextId = lo at hs
  generalize lo + (jobs.map (·.dets.length)).foldl (· + ·) 0 = hi at hs
  induction jobs generalizing st1 out with
  | nil => cases hs; exact h0
  | cons x rest ih =>
    obtain ⟨a1, r, out', h1, h2, rfl⟩ := batchSteps_cons hs
    exact ih a1 (AllT.sceneStep hupd hnew h1 h0) h2

theorem AllT.predictV {st st' : St} {scene : Nat} {dets : List Det} {table : List VEntry} {picks : List Pick}
    {recs : List Rec} (h : predictV cfg st scene dets table picks = some (st', recs)) (hinv : AllT P st) : AllT P st' :=
  AllT.sceneStep hupd hnew (valid := fun s e => validVisualChoice cfg s scene e dets.length table picks) h (hinv.awStep cfg)

theorem AllT.predictBatchV {st st' : St} {scenes : List (Nat × List Det × List VEntry × List Pick)}
    {out : List (Nat × List Rec)} (h : predictBatchV cfg st scenes = some (st', out)) (hinv : AllT P st) : AllT P st' :=
  AllT.batchCall hupd hnew (predictBatchV_eq_batchCall cfg st scenes ▸ h) hinv

end picks

end SimVerif.C13
