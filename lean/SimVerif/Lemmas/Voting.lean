import SimVerif.Model.Voting
import SimVerif.Lemmas.SortKey
import SimVerif.Lemmas.List
import Mathlib.Algebra.Order.Ring.Rat
import Mathlib.Data.List.Perm.Basic
import Mathlib.Data.List.Nodup
/-!
# The voting engines of `Model/Voting.lean`

The candidate list is invariant under permutations of the stream because every ingredient is a multiset function and a
duplicate-free list is determined by its members.
-/

namespace SimVerif.Voting
open List

theorem mem_firsts {α : Type} [BEq α] [LawfulBEq α] (l : List α) (a : α) : a ∈ firsts l ↔ a ∈ l := by
  induction l with
  | nil => simp [firsts]
  | cons b l ih =>
    simp only [firsts, mem_cons, mem_filter, ih, Bool.not_eq_true', beq_eq_false_iff_ne, ne_eq]
    by_cases hab : a = b <;> simp [hab]

theorem firsts_nodup {α : Type} [BEq α] [LawfulBEq α] (l : List α) : (firsts l).Nodup := by
  induction l with
  | nil => simp [firsts]
  | cons b l ih =>
    simp only [firsts, nodup_cons, mem_filter, Bool.not_eq_true', beq_self_eq_true,
      Bool.true_eq_false, and_false, not_false_eq_true, true_and]
    exact ih.filter _

theorem firsts_map {α β : Type} [BEq α] [LawfulBEq α] [BEq β] [LawfulBEq β] (ρ : α → β) (l : List α)
    (h : ∀ x ∈ l, ∀ y ∈ l, ρ x = ρ y → x = y) : firsts (l.map ρ) = (firsts l).map ρ := by
  induction l with
  | nil => rfl
  | cons a l ih =>
    simp only [map_cons, firsts]
    rw [ih (fun x hx y hy => h x (mem_cons_of_mem _ hx) y (mem_cons_of_mem _ hy)), filter_map]
    refine congrArg _ (congrArg _ (filter_congr fun b hb => ?_))
    have hb' := mem_cons_of_mem a ((mem_firsts l b).mp hb)
    exact congrArg (!·) (Bool.eq_iff_iff.mpr (by
      simp only [beq_iff_eq]; exact ⟨h b hb' a mem_cons_self, congrArg ρ⟩))

theorem firsts_perm {α : Type} [BEq α] [LawfulBEq α] {l₁ l₂ : List α} (h : l₁ ~ l₂) : firsts l₁ ~ firsts l₂ :=
  (perm_ext_iff_of_nodup (firsts_nodup _) (firsts_nodup _)).mpr fun a => by rw [mem_firsts, mem_firsts]; exact h.mem_iff

theorem maxStep_comm (z : Rat) (x y : Dist) :
    maxStep (maxStep z x) y = maxStep (maxStep z y) x := by
  unfold maxStep
  cases x.d <;> cases y.d <;> simp only [← max_def_lt, max_right_comm]

theorem maxSeen_eq_of_perm {s₁ s₂ : List Dist} (h : s₁ ~ s₂) : maxSeen s₁ = maxSeen s₂ :=
  Perm.foldl_eq' h (fun x _ y _ z => maxStep_comm z x y) _

theorem mem_kept (maxD : Rat) (s : List Dist) (k : Nat × Nat) (x : Rat) :
    (k, x) ∈ kept maxD s ↔ ∃ e ∈ s, e.d = some x ∧ x ≤ maxD ∧ k = (e.q, e.w) := by
  unfold kept
  rw [mem_filterMap]
  refine exists_congr fun e => and_congr_right fun _ => ?_
  cases hd : e.d with
  | none => simp
  | some y =>
    by_cases hy : y ≤ maxD
    · simp only [hy, if_true, Option.some.injEq, Prod.mk.injEq]
      exact ⟨fun ⟨h1, h2⟩ => ⟨h2, h2 ▸ hy, h1.symm⟩, fun ⟨h1, _, h3⟩ => ⟨h3.symm, h1⟩⟩
    · simp only [hy, if_false, Option.some.injEq, reduceCtorEq, false_iff, not_and]
      exact fun h1 h2 _ => hy (h1 ▸ h2)

theorem kept_perm (maxD : Rat) {s₁ s₂ : List Dist} (h : s₁ ~ s₂) : kept maxD s₁ ~ kept maxD s₂ :=
  h.filterMap _

theorem rsum_eq_of_perm {l₁ l₂ : List Rat} (h : l₁ ~ l₂) : rsum l₁ = rsum l₂ :=
  Perm.foldr_eq' h (fun x _ y _ z => add_left_comm y x z) _

theorem groupOf_perm (k : Nat × Nat) {l₁ l₂ : List ((Nat × Nat) × Rat)} (h : l₁ ~ l₂) :
    groupOf k l₁ ~ groupOf k l₂ := (h.filter _).map _

/-- the weight and the vote count `mkCand` gives the pair `k`; not `AssignX.weightOf` (the last weight of a table entry), which
is why `Lemmas/AssignPerm.lean` opens `Voting` selectively -/
def weightOf (maxD : Rat) (s : List Dist) (k : Nat × Nat) : Rat :=
  rsum ((groupOf k (kept maxD s)).map (fun d => maxSeen s - d))

def votes (maxD : Rat) (s : List Dist) (k : Nat × Nat) : Nat := (groupOf k (kept maxD s)).length

theorem mkCand_some (ks : List ((Nat × Nat) × Rat)) (m : Rat) (mv : Nat) (k : Nat × Nat) (e : Elt) :
    mkCand ks m mv k = some e ↔
      (e.q, e.w) = k ∧ mv ≤ (groupOf k ks).length ∧ e.weight = rsum ((groupOf k ks).map (fun d => m - d)) := by
  obtain ⟨q, w, wt⟩ := e
  unfold mkCand
  split
  · next hv => simp only [Option.some.injEq, Elt.mk.injEq, hv, true_and, Prod.ext_iff, and_assoc, eq_comm]
  · next hv => simp [hv]

theorem mem_cands (maxD : Rat) (mv : Nat) (s : List Dist) (e : Elt) :
    e ∈ cands maxD mv s ↔
      (e.q, e.w) ∈ (kept maxD s).map (·.1) ∧ mv ≤ votes maxD s (e.q, e.w) ∧
      e.weight = weightOf maxD s (e.q, e.w) := by
  unfold cands votes weightOf
  simp only [mem_filterMap, mem_firsts, mkCand_some]
  constructor
  · rintro ⟨k, hk, rfl, hv, hw⟩
    exact ⟨hk, hv, hw⟩
  · rintro ⟨hk, hv, hw⟩
    exact ⟨_, hk, rfl, hv, hw⟩

theorem cands_keys_nodup (maxD : Rat) (mv : Nat) (s : List Dist) :
    ((cands maxD mv s).map (fun e => (e.q, e.w))).Nodup :=
  (firsts_nodup _).sublist (ListFacts.map_filterMap_sublist (fun _ _ h => ((mkCand_some ..).mp h).1) _)

theorem cands_nodup (maxD : Rat) (mv : Nat) (s : List Dist) : (cands maxD mv s).Nodup :=
  Nodup.of_map _ (cands_keys_nodup maxD mv s)

theorem weightOf_eq_of_perm (maxD : Rat) {s₁ s₂ : List Dist} (h : s₁ ~ s₂) (k : Nat × Nat) :
    weightOf maxD s₁ k = weightOf maxD s₂ k := by
  unfold weightOf
  rw [maxSeen_eq_of_perm h]
  exact rsum_eq_of_perm ((groupOf_perm k (kept_perm maxD h)).map _)

theorem votes_eq_of_perm (maxD : Rat) {s₁ s₂ : List Dist} (h : s₁ ~ s₂) (k : Nat × Nat) :
    votes maxD s₁ k = votes maxD s₂ k := (groupOf_perm k (kept_perm maxD h)).length_eq

theorem cands_perm (maxD : Rat) (mv : Nat) {s₁ s₂ : List Dist} (h : s₁ ~ s₂) :
    cands maxD mv s₁ ~ cands maxD mv s₂ := by
  apply (perm_ext_iff_of_nodup (cands_nodup _ _ _) (cands_nodup _ _ _)).mpr
  intro e
  rw [mem_cands, mem_cands, votes_eq_of_perm maxD h, weightOf_eq_of_perm maxD h, ((kept_perm maxD h).map _).mem_iff]

theorem award_congr (l : List Elt) (t₁ t₂ : List Nat) (h : ∀ x, x ∈ t₁ ↔ x ∈ t₂) :
    award l t₁ = award l t₂ := by
  induction l generalizing t₁ t₂ with
  | nil => rfl
  | cons c rest ih =>
    unfold award
    have hc : t₁.contains c.w = t₂.contains c.w := by
      rw [Bool.eq_iff_iff]; simp [h c.w]
    rw [hc]
    split
    · rw [ih t₁ t₂ h]
    · rw [ih (c.w :: t₁) (c.w :: t₂) (fun x => by simp [h x])]

theorem award_append (l₁ l₂ : List Elt) (t : List Nat) :
    award (l₁ ++ l₂) t = award l₁ t ++ award l₂ (l₁.map (·.w) ++ t) := by
  induction l₁ generalizing t with
  | nil => simp [award]
  | cons c rest ih =>
    simp only [cons_append, award, map_cons]
    -- `award` reads `taken` as a set, and as a set it is `l₁.map (·.w) ++ t` after `l₁` whether or not `c` got its track
    split
    · next hc =>
      rw [ih t]
      congr 2
      exact award_congr _ _ _ fun x => by
        rw [mem_cons, or_iff_right_of_imp]
        rintro rfl; exact mem_append_right _ (by simpa using hc)
    · rw [ih (c.w :: t)]
      congr 2
      exact award_congr _ _ _ fun x => perm_middle.mem_iff

theorem award_real_nodup (l : List Elt) (t : List Nat) :
    (((award l t).filter (·.2)).map (·.1.w)).Nodup ∧
    ∀ x ∈ ((award l t).filter (·.2)).map (·.1.w), x ∉ t := by
  induction l generalizing t with
  | nil => simp [award]
  | cons c rest ih =>
    unfold award
    split
    · exact ih t
    · rename_i hc
      obtain ⟨h1, h2⟩ := ih (c.w :: t)
      rw [filter_cons_of_pos rfl, map_cons, nodup_cons]
      refine ⟨⟨fun hm => h2 _ hm mem_cons_self, h1⟩, fun x hx => ?_⟩
      rcases mem_cons.mp hx with rfl | hx
      · simpa using hc
      · exact fun hxt => h2 x hx (mem_cons_of_mem _ hxt)

theorem award_true_mem (l : List Elt) (t : List Nat) (e : Elt) (h : (e, true) ∈ award l t) : e ∈ l := by
  induction l generalizing t with
  | nil => cases h
  | cons c rest ih =>
    unfold award at h
    split at h
    · rcases mem_cons.mp h with h | h
      · cases h
      · exact mem_cons_of_mem _ (ih t h)
    · rcases mem_cons.mp h with h | h
      · exact (Prod.mk.inj h).1 ▸ mem_cons_self
      · exact mem_cons_of_mem _ (ih _ h)

theorem award_length (l : List Elt) (t : List Nat) : (award l t).length = l.length := by
  induction l generalizing t with
  | nil => rfl
  | cons c rest ih => unfold award; split <;> simp [ih]

end SimVerif.Voting
