import SimVerif.Model.OwnArea
import Mathlib.Tactic.Ring
import Mathlib.Tactic.NormNum
import Mathlib.Data.List.Sort
import Mathlib.Data.List.Pairwise
import Mathlib.Algebra.Order.Field.Rat
import Mathlib.Algebra.BigOperators.Ring.List
/-!
# The grid of C15: sorted cuts, so the segments within a side add up to it and the cells inside a box tile it (`cells_tile`)
`C15.rsum_nil`, `C15.rsum_cons`, `C15.cell_area_nonneg` at the end are statements of their own, kept under the names they were
first given (DESIGN 14.16).
-/
namespace SimVerif.OwnArea
open List

theorem rsum_eq_sum (l : List Rat) : rsum l = l.sum := rfl

theorem ins_eq (a : Rat) (l : List Rat) : ins a l = l.orderedInsert (· ≤ ·) a := by
  induction l with
  | nil => rfl
  | cons b l ih => simp only [ins, orderedInsert, ih]

theorem isort_eq (l : List Rat) : isort l = l.insertionSort (· ≤ ·) := by
  induction l with
  | nil => rfl
  | cons a l ih => rw [isort, ins_eq, ih]; rfl

theorem isort_perm (l : List Rat) : isort l ~ l := isort_eq l ▸ perm_insertionSort _ l

theorem isort_sorted (l : List Rat) : (isort l).Pairwise (· ≤ ·) := isort_eq l ▸ pairwise_insertionSort _ l

theorem mem_isort {x : Rat} {l : List Rat} : x ∈ isort l ↔ x ∈ l := (isort_perm l).mem_iff

theorem isort_congr {l₁ l₂ : List Rat} (h : l₁ ~ l₂) : isort l₁ = isort l₂ := by
  apply Perm.eq_of_pairwise (le := (· ≤ ·)) _ (isort_sorted l₁) (isort_sorted l₂)
  · exact (isort_perm l₁).trans (h.trans (isort_perm l₂).symm)
  · intro a b _ _ h1 h2; exact le_antisymm h1 h2

theorem mem_segs_split {l : List Rat} {s : Rat × Rat} (hs : s ∈ segs l) : ∃ pre suf, l = pre ++ s.1 :: s.2 :: suf := by
  induction l with
  | nil => cases hs
  | cons a l ih =>
    cases l with
    | nil => cases hs
    | cons b l =>
      rcases mem_cons.mp hs with rfl | hs
      · exact ⟨[], l, rfl⟩
      · obtain ⟨pre, suf, h⟩ := ih hs
        exact ⟨a :: pre, suf, by rw [h]; rfl⟩

theorem segs_le {l : List Rat} (hl : l.Pairwise (· ≤ ·)) {s : Rat × Rat} (hs : s ∈ segs l) :
    s.1 ≤ s.2 := by
  obtain ⟨pre, suf, rfl⟩ := mem_segs_split hs
  exact rel_of_pairwise_cons (pairwise_append.mp hl).2.1 mem_cons_self

theorem segs_consecutive {l : List Rat} (hl : l.Pairwise (· ≤ ·)) {s : Rat × Rat} (hs : s ∈ segs l)
    {w : Rat} (hw : w ∈ l) : w ≤ s.1 ∨ s.2 ≤ w := by
  obtain ⟨pre, suf, rfl⟩ := mem_segs_split hs
  obtain ⟨-, h2, h3⟩ := pairwise_append.mp hl
  rcases mem_append.mp hw with hw | hw
  · exact Or.inl (h3 w hw _ mem_cons_self)
  · rcases mem_cons.mp hw with rfl | hw
    · exact Or.inl le_rfl
    · rcases mem_cons.mp hw with rfl | hw
      · exact Or.inr le_rfl
      · exact Or.inr (rel_of_pairwise_cons (pairwise_cons.mp h2).2 hw)

theorem seg_uniform {l : List Rat} (hl : l.Pairwise (· ≤ ·)) {s : Rat × Rat} (hs : s ∈ segs l)
    {w₀ w₁ x : Rat} (h₀ : w₀ ∈ l) (h₁ : w₁ ∈ l) (hx : s.1 < x ∧ x < s.2) :
    w₀ ≤ x ∧ x ≤ w₁ ↔ w₀ ≤ s.1 ∧ s.2 ≤ w₁ := by
  constructor
  · rintro ⟨a, b⟩
    exact ⟨(segs_consecutive hl hs h₀).resolve_right fun h => (h.trans a).not_gt hx.2,
      (segs_consecutive hl hs h₁).resolve_left fun h => (b.trans h).not_gt hx.1⟩
  · rintro ⟨a, b⟩
    exact ⟨a.trans hx.1.le, hx.2.le.trans b⟩

theorem sum_segs_telescope (g : Rat → Rat) (a : Rat) (l : List Rat) :
    rsum ((segs (a :: l)).map (fun s => g s.2 - g s.1)) = g ((a :: l).getLast (cons_ne_nil a l)) - g a := by
  induction l generalizing a with
  | nil => simp [segs, rsum_eq_sum]
  | cons b l ih =>
    rw [rsum_eq_sum, segs, map_cons, sum_cons, ← rsum_eq_sum, ih b, getLast_cons_cons]
    ring

/-- clamped to `[a, b]` a segment inside keeps its length, one outside shrinks to a point, and the lengths telescope -/
theorem sum_segs_within {l : List Rat} (hl : l.Pairwise (· ≤ ·)) {a b : Rat} (ha : a ∈ l) (hb : b ∈ l)
    (hab : a ≤ b) :
    rsum ((segs l).map (fun s => if a ≤ s.1 ∧ s.2 ≤ b then s.2 - s.1 else 0)) = b - a := by
  have key : ∀ s ∈ segs l,
      (if a ≤ s.1 ∧ s.2 ≤ b then s.2 - s.1 else 0) = max a (min s.2 b) - max a (min s.1 b) := by
    intro s hs
    have h12 := segs_le hl hs
    split_ifs with hc
    · rw [min_eq_left hc.2, min_eq_left (h12.trans hc.2), max_eq_right hc.1, max_eq_right (hc.1.trans h12)]
    · -- no cut lies strictly inside the segment, so it ends before `a` or starts after `b`
      rcases segs_consecutive hl hs ha with h | h
      · rcases segs_consecutive hl hs hb with h' | h'
        · rw [min_eq_right (h'.trans h12), min_eq_right h', sub_self]
        · exact absurd ⟨h, h'⟩ hc
      · rw [min_eq_left (h.trans hab), min_eq_left ((h12.trans h).trans hab), max_eq_left h, max_eq_left (h12.trans h),
          sub_self]
  cases l with
  | nil => cases ha
  | cons h t =>
    have hh : h ≤ a := hl.rel_head ha
    rw [map_congr_left key, sum_segs_telescope (fun t => max a (min t b)), min_eq_right (hl.rel_getLast hb),
      min_eq_left (hh.trans hab), max_eq_right hab, max_eq_left hh]

theorem inside_iff (c : Cell) (b : ABox) :
    inside c b = true ↔ b.x0 ≤ c.xa ∧ c.xb ≤ b.x1 ∧ b.y0 ≤ c.ya ∧ c.yb ≤ b.y1 := by
  simp [inside, and_assoc]

theorem mem_cells {all : List ABox} {c : Cell} :
    c ∈ cells all ↔ ∃ sx ∈ segs (xcuts all), ∃ sy ∈ segs (ycuts all),
      c = ⟨sx.1, sx.2, sy.1, sy.2⟩ := by
  simp only [cells, mem_flatMap, mem_map, eq_comm (a := c)]

theorem xcuts_sorted (all : List ABox) : (xcuts all).Pairwise (· ≤ ·) := isort_sorted _
theorem ycuts_sorted (all : List ABox) : (ycuts all).Pairwise (· ≤ ·) := isort_sorted _

theorem mem_xcuts {all : List ABox} {a : ABox} (ha : a ∈ all) :
    a.x0 ∈ xcuts all ∧ a.x1 ∈ xcuts all := by
  simp only [xcuts, mem_isort, mem_flatMap]
  exact ⟨⟨a, ha, by simp⟩, ⟨a, ha, by simp⟩⟩

theorem mem_ycuts {all : List ABox} {a : ABox} (ha : a ∈ all) :
    a.y0 ∈ ycuts all ∧ a.y1 ∈ ycuts all := by
  simp only [ycuts, mem_isort, mem_flatMap]
  exact ⟨⟨a, ha, by simp⟩, ⟨a, ha, by simp⟩⟩

theorem cell_le {all : List ABox} {c : Cell} (hc : c ∈ cells all) : c.xa ≤ c.xb ∧ c.ya ≤ c.yb := by
  obtain ⟨sx, hsx, sy, hsy, rfl⟩ := mem_cells.1 hc
  exact ⟨segs_le (xcuts_sorted all) hsx, segs_le (ycuts_sorted all) hsy⟩

theorem cell_indicator_mul (b : ABox) (xa xb ya yb : Rat) :
    (if inside ⟨xa, xb, ya, yb⟩ b then (Cell.mk xa xb ya yb).area else 0)
      = (if b.x0 ≤ xa ∧ xb ≤ b.x1 then xb - xa else 0)
        * (if b.y0 ≤ ya ∧ yb ≤ b.y1 then yb - ya else 0) := by
  simp only [ite_zero_mul_ite_zero, inside_iff, and_assoc, Cell.area]

theorem cells_tile (b : ABox) (all : List ABox) (hb : b ∈ all) (hbwf : b.wf) :
    rsum ((cells all).map (fun c => if inside c b then c.area else 0)) = b.area := by
  -- a column of cells
  have h1 : ∀ sx ∈ segs (xcuts all),
      (((segs (ycuts all)).map fun sy => (⟨sx.1, sx.2, sy.1, sy.2⟩ : Cell)).map
        fun c => if inside c b then c.area else 0).sum
      = (if b.x0 ≤ sx.1 ∧ sx.2 ≤ b.x1 then sx.2 - sx.1 else 0) * (b.y1 - b.y0) := by
    intro sx _
    rw [map_map, map_congr_left fun sy _ => cell_indicator_mul b sx.1 sx.2 sy.1 sy.2, sum_map_mul_left,
      ← rsum_eq_sum, sum_segs_within (ycuts_sorted all) (mem_ycuts hb).1 (mem_ycuts hb).2 hbwf.2]
  rw [rsum_eq_sum, cells, map_flatMap, flatMap_def, sum_flatten, map_map, map_congr_left (f := sum ∘ _) h1,
    sum_map_mul_right, ← rsum_eq_sum, sum_segs_within (xcuts_sorted all) (mem_xcuts hb).1 (mem_xcuts hb).2 hbwf.1]
  rfl

theorem cells_congr {l₁ l₂ : List ABox} (h : l₁ ~ l₂) : cells l₁ = cells l₂ := by
  have hx : xcuts l₁ = xcuts l₂ := isort_congr (h.flatMap_right _)
  have hy : ycuts l₁ = ycuts l₂ := isort_congr (h.flatMap_right _)
  unfold cells; rw [hx, hy]

theorem EPS_pos : 0 < Gen.EPS := by
  unfold Gen.EPS; norm_num

/-- `shares` without indices -/
def eachVsRest (f : ABox → List ABox → Rat) : List ABox → List Rat
  | [] => []
  | a :: l => f a l :: eachVsRest (fun b o => f b (a :: o)) l

theorem map_range_eq_eachVsRest (f : ABox → List ABox → Rat) (l : List ABox) :
    (List.range l.length).map (fun i => match l[i]? with
      | some b => f b (l.eraseIdx i)
      | none => 0) = eachVsRest f l := by
  induction l generalizing f with
  | nil => simp [eachVsRest]
  | cons a l ih =>
    rw [length_cons, range_succ_eq_map, map_cons, map_map, eachVsRest, ← ih]
    -- by definition `(a :: l)[i + 1]? = l[i]?` and `(a :: l).eraseIdx (i + 1) = a :: l.eraseIdx i`
    congr 1

theorem eachVsRest_perm {l₁ l₂ : List ABox} (h : l₁ ~ l₂) :
    ∀ f : ABox → List ABox → Rat, (∀ b o₁ o₂, o₁ ~ o₂ → f b o₁ = f b o₂) →
      eachVsRest f l₁ ~ eachVsRest f l₂ := by
  induction h with
  | nil => intro f _; exact Perm.refl _
  | cons a h ih =>
    intro f hf
    simp only [eachVsRest]
    rw [hf a _ _ h]
    exact Perm.cons _ (ih _ (fun b o₁ o₂ ho => hf b _ _ (Perm.cons a ho)))
  | swap a b l =>
    intro f hf
    simp only [eachVsRest]
    have : (fun c o => f c (b :: a :: o)) = (fun c o => f c (a :: b :: o)) := by
      funext c o; exact hf c _ _ (Perm.swap a b o)
    rw [this]
    exact Perm.swap _ _ _
  | trans _ _ ih₁ ih₂ =>
    intro f hf
    exact (ih₁ f hf).trans (ih₂ f hf)

end SimVerif.OwnArea

namespace SimVerif.C15
open SimVerif.OwnArea

@[simp] theorem rsum_nil : rsum [] = 0 := rfl
@[simp] theorem rsum_cons (a : Rat) (l : List Rat) : rsum (a :: l) = a + rsum l := rfl

theorem cell_area_nonneg (all : List ABox) : ∀ c ∈ cells all, 0 ≤ c.area := fun _ hc =>
  mul_nonneg (sub_nonneg.mpr (cell_le hc).1) (sub_nonneg.mpr (cell_le hc).2)

end SimVerif.C15
