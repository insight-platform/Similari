import SimVerif.Model.Tracker
import SimVerif.Lemmas.List
/-!
# The tracker model, fact by fact

What each definition of `Model/Tracker.lean` does on every form of input. Core Lean only. In this file and the other
`Lemmas/Tracker*` files a name with a property number is a definition a property statement rests on (`C03.updTrk`,
`C01.freshIds`, `C03.Inv`, …) or a statement of its own, kept under the name it was first given (DESIGN 14.16).
-/
namespace SimVerif.C03
open SimVerif.Tracker

/-- the `t'` of `applyPick`'s cont branch, copied; `applyPick_cont_eq` ties it by `rfl` -/
def updTrk (cfg : Cfg) (e : Nat) (d : Det) (vis : Bool) (t : Trk) : Trk :=
  let g' := if cfg.visual then
      galleryUpdate cfg.maxObs t.gallery { quality := d.quality, feat := if d.collectOk then d.feat else 0, box := true }
    else t.gallery
  { t with lastUpd := e, len := t.len + 1, custom := d.custom,
           obsH := pushBounded t.obsH d.tok cfg.histLen, visual := vis,
           gallery := g', vcount := if cfg.visual then featCount g' else t.vcount,
           vt := if cfg.visual then some vis else t.vt,
           featH := if cfg.visual then pushBounded t.featH d.feat cfg.histLen else t.featH }

/-- the `t'` of `applyPick`'s fresh branch, copied; `applyPick_fresh_eq` ties it by `rfl` -/
def newTrk (cfg : Cfg) (scene e : Nat) (d : Det) (id : Nat) : Trk :=
  let g' : List GE := if cfg.visual then [{ quality := d.quality, feat := d.feat, box := true }] else []
  { id := id, scene := scene, lastUpd := e, len := 1, custom := d.custom, obsH := [d.tok], visual := false,
    gallery := g', vcount := featCount g', featH := if cfg.visual then [d.feat] else [] }

end SimVerif.C03

namespace SimVerif.C06
open SimVerif.Tracker SimVerif.C03

theorem updTrk_id (cfg : Cfg) (e : Nat) (d : Det) (vis : Bool) (t : Trk) : (updTrk cfg e d vis t).id = t.id := rfl
theorem newTrk_id (cfg : Cfg) (scene e : Nat) (d : Det) (id : Nat) : (newTrk cfg scene e d id).id = id := rfl

end SimVerif.C06

namespace SimVerif.C01
open SimVerif.Tracker

def freshIds (picks : List Pick) : List Nat :=
  picks.filterMap (fun p => match p with | .fresh id => some id | _ => none)

end SimVerif.C01

namespace SimVerif.Tracker
open SimVerif.C03 SimVerif.C01

deriving instance ReflBEq, LawfulBEq for Pick

theorem nodupB_iff (l : List Nat) : nodupB l = true ↔ l.Nodup := by
  induction l with
  | nil => simp [nodupB]
  | cons a l ih => simp [nodupB, ih]

theorem epochOf_setEpoch (st : St) (s e s' : Nat) :
    epochOf (setEpoch st s e) s' = if s' = s then e else epochOf st s' := by
  unfold epochOf setEpoch
  simp only [List.find?_append, List.find?_filter]
  by_cases h : s' = s
  · -- no old entry of the scene is left: the new one is found
    subst h
    rw [List.find?_eq_none.mpr (by simp)]
    simp
  · -- the entries of the other scenes are all kept, and the new entry is not the one looked for
    have hs : (s == s') = false := by simpa using Ne.symm h
    rw [ListFacts.find?_congr (q := fun p => p.1 == s')
      (fun p _ => by by_cases hp : p.1 = s' <;> simp [hp, h])]
    cases st.epochs.find? (fun p => p.1 == s') <;> simp [h, hs]

theorem epochOf_congr (a b : St) (h : a.epochs = b.epochs) (s : Nat) : epochOf a s = epochOf b s := by
  unfold epochOf; rw [h]

theorem expired_congr (cfg : Cfg) (a b : St) (h : a.epochs = b.epochs) : expired cfg a = expired cfg b := by
  funext t; unfold expired; rw [epochOf_congr a b h]

theorem idle_congr (cfg : Cfg) (a b : St) (he : a.epochs = b.epochs) (hl : a.live = b.live) (scene : Nat) :
    idle cfg a scene = idle cfg b scene := by
  unfold idle
  rw [hl, expired_congr cfg a b he, epochOf_congr a b he]

theorem unexpired_of_later_epoch (cfg : Cfg) (a : St) (s e : Nat) (hle : epochOf a s ≤ e) (t : Trk)
    (ht : (!expired cfg (setEpoch a s e) t) = true) : (!expired cfg a t) = true := by
  simp only [expired, epochOf_setEpoch, Bool.not_eq_true', decide_eq_false_iff_not] at ht ⊢
  split at ht <;> rename_i hs
  · rw [hs]; omega
  · exact ht

/-- what the gate of `entryOk` admits at epoch `e` is unexpired once the scene's epoch is `e` -/
theorem unexpired_setEpoch_of_gate (cfg : Cfg) (a : St) (scene e : Nat) (t : Trk) (hs : t.scene = scene)
    (hg : e - t.lastUpd ≤ cfg.maxIdle) : expired cfg (setEpoch a scene e) t = false := by
  simp only [expired, epochOf_setEpoch, hs, if_true, decide_eq_false_iff_not]
  omega

theorem epochOf_collect (cfg : Cfg) (st : St) (s : Nat) : epochOf (collect cfg st) s = epochOf st s := rfl

theorem collect_idem (cfg : Cfg) (st : St) : collect cfg (collect cfg st) = collect cfg st := by
  have h1 : (collect cfg (collect cfg st)).live = (collect cfg st).live := by
    show (st.live.filter (fun t => !expired cfg st t)).filter (fun t => !expired cfg st t) = _
    simp only [List.filter_filter, Bool.and_self]
    rfl
  have h2 : (collect cfg (collect cfg st)).wasted = (collect cfg st).wasted := by
    show (collect cfg st).wasted ++ (st.live.filter (fun t => !expired cfg st t)).filter (fun t => expired cfg st t) = _
    have : st.live.filter (fun t => expired cfg st t && !expired cfg st t) = [] :=
      List.filter_eq_nil_iff.mpr fun a _ => by simp
    rw [List.filter_filter, this, List.append_nil]
  show ({ collect cfg st with live := (collect cfg (collect cfg st)).live, wasted := (collect cfg (collect cfg st)).wasted } : St) = collect cfg st
  rw [h1, h2]

theorem awStep_eq (cfg : Cfg) (st : St) :
    awStep cfg st = { collect cfg st with awCounter := st.awPeriod } ∨ awStep cfg st = { st with awCounter := st.awCounter - 1 } := by
  unfold awStep
  split
  · exact Or.inl rfl
  · exact Or.inr rfl

-- `protected`: `HistC06.awStep_nextId` states the same, a statement of its own kept under the name it was first given
-- (DESIGN 14.16), and Props/Hist.lean opens both namespaces
protected theorem awStep_nextId (cfg : Cfg) (st : St) : (awStep cfg st).nextId = st.nextId := by
  rcases awStep_eq cfg st with h | h <;> rw [h] <;> rfl

theorem awStep_live_sublist (cfg : Cfg) (st : St) : (awStep cfg st).live.Sublist st.live := by
  rcases awStep_eq cfg st with h | h <;> rw [h]
  · exact List.filter_sublist
  · exact List.Sublist.refl _

theorem awStep_nodup (cfg : Cfg) (a : St) (hu : (a.live.map (·.id)).Nodup) :
    ((awStep cfg a).live.map (·.id)).Nodup :=
  hu.sublist ((awStep_live_sublist cfg a).map _)

theorem wastedOp_live (cfg : Cfg) (st : St) : (wastedOp cfg st).1.live = (collect cfg st).live := rfl
theorem wastedOp_wasted (cfg : Cfg) (st : St) : (wastedOp cfg st).1.wasted = [] := rfl

/-- the id a pick gives to its detection's record -/
def pickId : Pick → Nat
  | .cont tid _ => tid
  | .fresh id => id

theorem findLive_id (st : St) (tid : Nat) (t : Trk) (h : findLive st tid = some t) : t.id = tid := by
  unfold findLive at h
  have := List.find?_some h
  simpa using this

theorem findLive_mem (st : St) (tid : Nat) (t : Trk) (h : findLive st tid = some t) : t ∈ st.live :=
  List.mem_of_find?_eq_some h

theorem map_replace_ids (tid : Nat) (t' : Trk) (h : t'.id = tid) (l : List Trk) :
    (l.map (fun x => if (x.id == tid) = true then t' else x)).map (·.id) = l.map (·.id) := by
  induction l with
  | nil => rfl
  | cons x l ih =>
    simp only [List.map_cons, ih]
    split
    · rename_i hx; simp only [beq_iff_eq] at hx; simp [h, hx]
    · rfl

theorem find_of_mem_nodup (l : List Trk) (hnd : (l.map (·.id)).Nodup) (t : Trk) (ht : t ∈ l) :
    l.find? (fun x => x.id == t.id) = some t :=
  ListFacts.find?_key_of_nodup (·.id) hnd ht

theorem find_id_unique (l : List Trk) (hnd : (l.map (·.id)).Nodup) (tid : Nat) (x t : Trk) (hx : x ∈ l)
    (hxid : x.id = tid) (hf : l.find? (fun y => y.id == tid) = some t) : x = t := by
  have := find_of_mem_nodup l hnd x hx
  rw [hxid, hf] at this
  exact (Option.some.inj this).symm

theorem find_map_replace (tid : Nat) (t' : Trk) (hid : t'.id = tid) (tid2 : Nat) (l : List Trk) :
    (l.map (fun x => if (x.id == tid) = true then t' else x)).find? (fun x => x.id == tid2) =
    (l.find? (fun x => x.id == tid2)).map (fun x => if (x.id == tid) = true then t' else x) := by
  induction l with
  | nil => rfl
  | cons y l ih =>
    rw [List.map_cons, List.find?_cons, List.find?_cons]
    have hyid : (if (y.id == tid) = true then t' else y).id = y.id := by
      split
      · rename_i h; simp only [beq_iff_eq] at h; rw [hid, h]
      · rfl
    rw [hyid]
    cases hy : (y.id == tid2) with
    | true => rfl
    | false => exact ih

theorem find_replaced (live : List Trk) (d : Nat) (t t' : Trk) (hid : t'.id = t.id)
    (hf : live.find? (fun x => x.id == d) = some t) :
    (live.map (fun x => if x.id == d then t' else x)).find? (fun x => x.id == d) = some t' := by
  have htd : t.id = d := by simpa using List.find?_some hf
  rw [find_map_replace d t' (hid.trans htd) d live, hf]
  simp [htd]

theorem find_appended (live : List Trk) (k : Nat) (t' : Trk) (hid : t'.id = k) (hlt : ∀ u ∈ live, u.id < k) :
    (live ++ [t']).find? (fun x => x.id == k) = some t' := by
  rw [List.find?_append, List.find?_eq_none.mpr (fun u hu => by simpa using Nat.ne_of_lt (hlt u hu))]
  simp [hid]

/-- the tracks of one id, all in the view, replaced by a track of the view: filtering and replacing commute -/
theorem filter_map_replace_view (Q : Trk → Bool) (tid : Nat) (t' : Trk) (hQ' : Q t' = true) (l : List Trk)
    (h : ∀ x ∈ l, x.id = tid → Q x = true) :
    (l.map (fun x => if (x.id == tid) = true then t' else x)).filter Q =
      (l.filter Q).map (fun x => if (x.id == tid) = true then t' else x) := by
  refine ListFacts.filter_map_same Q _ l fun x hx => ?_
  split
  · rename_i hxi; rw [hQ', h x hx (beq_iff_eq.mp hxi)]
  · rfl

/-- … and if none of them is in the set `N`, nor the new one, the set is as it was -/
theorem filter_map_replace (N : Trk → Bool) (tid : Nat) (t' : Trk) (hN' : N t' = false) (l : List Trk)
    (h : ∀ x ∈ l, x.id = tid → N x = false) :
    (l.map (fun x => if (x.id == tid) = true then t' else x)).filter N = l.filter N := by
  induction l with
  | nil => rfl
  | cons y l ih =>
    have ih' := ih (fun x hx => h x (List.mem_cons_of_mem _ hx))
    rw [List.map_cons, List.filter_cons, List.filter_cons, ih']
    by_cases hy : y.id = tid
    · have h1 : (y.id == tid) = true := by simpa using hy
      rw [if_pos h1, hN', h y List.mem_cons_self hy]
      rfl
    · have h1 : ¬ ((y.id == tid) = true) := by simpa using hy
      rw [if_neg h1]

theorem applyPick_cont_eq (cfg : Cfg) (scene e : Nat) (st : St) (d : Det)
    (tid : Nat) (vis : Bool) (t : Trk) (hf : findLive st tid = some t) :
    applyPick cfg scene e st d (.cont tid vis) =
      some ({ st with nextId := st.nextId + (if cfg.batchIds then 1 else 0),
                      live := st.live.map (fun x => if (x.id == tid) = true then updTrk cfg e d vis t else x) },
            { id := tid, epoch := e, scene := t.scene, len := t.len + 1, custom := d.custom, tok := d.tok, visual := vis }) := by
  have hf' : findLive { st with nextId := st.nextId + 1 } tid = some t := hf
  unfold applyPick
  cases cfg.batchIds <;> simp only [Bool.false_eq_true, if_false, if_true, hf, hf'] <;> rfl

theorem applyPick_cont_none (cfg : Cfg) (scene e : Nat) (st : St) (d : Det)
    (tid : Nat) (vis : Bool) (hf : findLive st tid = none) :
    applyPick cfg scene e st d (.cont tid vis) = none := by
  have hf' : findLive { st with nextId := st.nextId + 1 } tid = none := hf
  unfold applyPick
  cases cfg.batchIds <;> simp only [Bool.false_eq_true, if_false, if_true, hf, hf']

theorem applyPick_fresh_eq (cfg : Cfg) (scene e : Nat) (st : St) (d : Det) (id : Nat) :
    applyPick cfg scene e st d (.fresh id) =
      some ({ st with nextId := st.nextId + 1, live := st.live ++ [newTrk cfg scene e d id] },
            { id := id, epoch := e, scene := scene, len := 1, custom := d.custom, tok := d.tok, visual := false }) := by
  unfold applyPick
  cases cfg.batchIds <;> rfl

theorem applyPick_cases {cfg : Cfg} {scene e : Nat} {st st' : St} {d : Det} {p : Pick} {r : Rec}
    (h : applyPick cfg scene e st d p = some (st', r)) :
    (∃ tid vis t, p = .cont tid vis ∧ findLive st tid = some t ∧
      st' = { st with nextId := st.nextId + (if cfg.batchIds then 1 else 0),
                      live := st.live.map (fun x => if (x.id == tid) = true then updTrk cfg e d vis t else x) } ∧
      r = { id := tid, epoch := e, scene := t.scene, len := t.len + 1, custom := d.custom, tok := d.tok, visual := vis }) ∨
    (∃ id, p = .fresh id ∧
      st' = { st with nextId := st.nextId + 1, live := st.live ++ [newTrk cfg scene e d id] } ∧
      r = { id := id, epoch := e, scene := scene, len := 1, custom := d.custom, tok := d.tok, visual := false }) := by
  cases p with
  | cont tid vis =>
    cases hf : findLive st tid with
    | none => rw [applyPick_cont_none cfg scene e st d tid vis hf] at h; cases h
    | some t =>
      rw [applyPick_cont_eq cfg scene e st d tid vis t hf] at h
      cases h
      exact Or.inl ⟨tid, vis, t, rfl, hf, rfl, rfl⟩
  | fresh id =>
    rw [applyPick_fresh_eq] at h
    cases h
    exact Or.inr ⟨id, rfl, rfl, rfl⟩

def freshCount (p : Pick) : Nat := match p with | .fresh _ => 1 | .cont _ _ => 0

theorem applyPick_nextId (cfg : Cfg) (scene e : Nat) (st st' : St) (d : Det) (p : Pick) (r : Rec)
    (h : applyPick cfg scene e st d p = some (st', r)) :
    st'.nextId = st.nextId + (if cfg.batchIds then 1 else freshCount p) := by
  obtain ⟨tid, vis, t, rfl, hf, rfl, rfl⟩ | ⟨id, rfl, rfl, rfl⟩ := applyPick_cases h
  · cases cfg.batchIds <;> rfl
  · cases cfg.batchIds <;> rfl

/-- a pick writes `live` and `nextId` only; any other field is read off this equation (`congrArg St.wasted …`) -/
theorem applyPick_fields {cfg : Cfg} {scene e : Nat} {st st' : St} {d : Det} {p : Pick} {r : Rec}
    (h : applyPick cfg scene e st d p = some (st', r)) :
    st' = { st with live := st'.live, nextId := st'.nextId } := by
  obtain ⟨tid, vis, t, rfl, hf, rfl, rfl⟩ | ⟨id, rfl, rfl, rfl⟩ := applyPick_cases h <;> rfl

/-- the live ids and the ids still to be issued, before and after a pick -/
theorem applyPick_ids {cfg : Cfg} {scene e : Nat} {st st' : St} {d : Det} {p : Pick} {r : Rec}
    (h : applyPick cfg scene e st d p = some (st', r)) (ps : List Pick) :
    st'.live.map (·.id) ++ freshIds ps = st.live.map (·.id) ++ freshIds (p :: ps) := by
  obtain ⟨tid, vis, t, rfl, hf, rfl, rfl⟩ | ⟨id, rfl, rfl, rfl⟩ := applyPick_cases h
  · exact congrArg (· ++ freshIds ps) (map_replace_ids tid (updTrk cfg e d vis t) (findLive_id st tid t hf) st.live)
  · show (st.live ++ [newTrk cfg scene e d id]).map (·.id) ++ freshIds ps = st.live.map (·.id) ++ (id :: freshIds ps)
    rw [List.map_append, List.append_assoc]
    rfl

theorem applyPick_ids_le {cfg : Cfg} {scene e : Nat} {s s' : St} {d : Det} {p : Pick} {r : Rec}
    (h : applyPick cfg scene e s d p = some (s', r)) (hle : ∀ t ∈ s.live, t.id ≤ s.nextId)
    (hk : ∀ k, p = .fresh k → k = s.nextId + 1) : ∀ t ∈ s'.live, t.id ≤ s'.nextId := by
  obtain ⟨tid, vis, t0, rfl, hf, rfl, rfl⟩ | ⟨k, rfl, rfl, rfl⟩ := applyPick_cases h
  · intro t ht
    obtain ⟨x, hx, rfl⟩ := List.mem_map.mp ht
    split
    · exact Nat.le_trans (hle t0 (findLive_mem s tid t0 hf)) (Nat.le_add_right _ _)
    · exact Nat.le_trans (hle x hx) (Nat.le_add_right _ _)
  · intro t ht
    rcases List.mem_append.mp ht with ht | ht
    · exact Nat.le_succ_of_le (hle t ht)
    · rw [List.mem_singleton.mp ht]
      exact Nat.le_of_eq (hk k rfl)

theorem applyPicks_cons (cfg : Cfg) (scene e : Nat) (d : Det) (ds : List Det) (p : Pick) (ps : List Pick)
    (st st' : St) (recs : List Rec) (h : applyPicks cfg scene e (d :: ds) (p :: ps) st = some (st', recs)) :
    ∃ st1 r rs, applyPick cfg scene e st d p = some (st1, r) ∧
      applyPicks cfg scene e ds ps st1 = some (st', rs) ∧ recs = r :: rs := by
  simp only [applyPicks] at h
  split at h
  · cases h
  · rename_i st1 r h1
    split at h
    · cases h
    · rename_i st2 rs h2
      cases h
      exact ⟨st1, r, rs, h1, h2, rfl⟩

theorem applyPicks_cons_eq (cfg : Cfg) (scene e : Nat) (d : Det) (ds : List Det) (p : Pick) (ps : List Pick)
    (st st1 st' : St) (r : Rec) (rs : List Rec) (h1 : applyPick cfg scene e st d p = some (st1, r))
    (h2 : applyPicks cfg scene e ds ps st1 = some (st', rs)) :
    applyPicks cfg scene e (d :: ds) (p :: ps) st = some (st', r :: rs) := by
  simp only [applyPicks, h1, h2]

theorem applyPicks_induction {cfg : Cfg} {scene e : Nat}
    {motive : ∀ dets picks st st' recs, applyPicks cfg scene e dets picks st = some (st', recs) → Prop}
    (nil : ∀ st, motive [] [] st st [] rfl)
    (cons : ∀ d ds p ps st st1 st' r rs (h1 : applyPick cfg scene e st d p = some (st1, r))
      (h2 : applyPicks cfg scene e ds ps st1 = some (st', rs)), motive ds ps st1 st' rs h2 →
      motive (d :: ds) (p :: ps) st st' (r :: rs) (applyPicks_cons_eq cfg scene e d ds p ps st st1 st' r rs h1 h2)) :
    ∀ dets picks st st' recs h, motive dets picks st st' recs h := by
  intro dets
  induction dets with
  | nil =>
    intro picks st st' recs h
    cases picks with
    | nil => cases h; exact nil st
    | cons p ps => cases h
  | cons d ds ih =>
    intro picks st st' recs h
    cases picks with
    | nil => cases h
    | cons p ps =>
      obtain ⟨st1, r, rs, h1, h2, rfl⟩ := applyPicks_cons cfg scene e d ds p ps st st' recs h
      exact cons d ds p ps st st1 st' r rs h1 h2 (ih ps st1 st' rs h2)

theorem applyPicks_recs {cfg : Cfg} {scene e : Nat} {dets : List Det} {picks : List Pick} {st st' : St}
    {recs : List Rec} (h : applyPicks cfg scene e dets picks st = some (st', recs)) :
    recs.length = dets.length ∧ recs.map (·.tok) = dets.map (·.tok) ∧ recs.map (·.custom) = dets.map (·.custom) ∧
    ∀ r ∈ recs, r.epoch = e := by
  induction dets, picks, st, st', recs, h using applyPicks_induction with
  | nil st => simp
  | cons d ds p ps st st1 st' r rs h1 _ ih =>
    obtain ⟨b1, b3, b4, b5⟩ := ih
    have hr : r.tok = d.tok ∧ r.custom = d.custom ∧ r.epoch = e := by
      obtain ⟨tid, vis, t, rfl, _, _, rfl⟩ | ⟨id, rfl, _, rfl⟩ := applyPick_cases h1 <;> exact ⟨rfl, rfl, rfl⟩
    refine ⟨by simp [b1], by simp [hr.1, b3], by simp [hr.2.1, b4], fun r' hr' => ?_⟩
    rcases List.mem_cons.mp hr' with rfl | hr'
    · exact hr.2.2
    · exact b5 r' hr'

theorem applyPicks_recs_ids {cfg : Cfg} {scene e : Nat} {dets : List Det} {picks : List Pick} {st st' : St}
    {recs : List Rec} (h : applyPicks cfg scene e dets picks st = some (st', recs)) :
    recs.map (·.id) = picks.map pickId := by
  induction dets, picks, st, st', recs, h using applyPicks_induction with
  | nil st => rfl
  | cons d ds p ps st st1 st' r rs h1 _ ih =>
    have hr : r.id = pickId p := by
      obtain ⟨tid, vis, t, rfl, _, _, rfl⟩ | ⟨id, rfl, _, rfl⟩ := applyPick_cases h1 <;> rfl
    rw [List.map_cons, List.map_cons, hr, ih]

theorem applyPicks_liveIds {cfg : Cfg} {scene e : Nat} {dets : List Det} {picks : List Pick} {st st' : St}
    {recs : List Rec} (h : applyPicks cfg scene e dets picks st = some (st', recs)) :
    st'.live.map (·.id) = st.live.map (·.id) ++ freshIds picks := by
  induction dets, picks, st, st', recs, h using applyPicks_induction with
  | nil st => exact (List.append_nil _).symm
  | cons d ds p ps st st1 st' r rs h1 _ ih => rw [ih, applyPick_ids h1]

theorem freshIds_length_cons (p : Pick) (ps : List Pick) :
    (freshIds (p :: ps)).length = freshCount p + (freshIds ps).length := by
  cases p
  · exact (Nat.zero_add _).symm
  · exact Nat.add_comm _ 1

theorem applyPicks_nextId {cfg : Cfg} {scene e : Nat} {dets : List Det} {picks : List Pick} {st st' : St}
    {recs : List Rec} (h : applyPicks cfg scene e dets picks st = some (st', recs)) :
    st'.nextId = st.nextId + (if cfg.batchIds then picks.length else (freshIds picks).length) := by
  induction dets, picks, st, st', recs, h using applyPicks_induction with
  | nil st => cases cfg.batchIds <;> rfl
  | cons d ds p ps st st1 st' r rs h1 _ ih =>
    rw [ih, applyPick_nextId cfg scene e st st1 d p r h1, Nat.add_assoc]
    congr 1
    -- a pick of a batch tracker draws one id, a pick of a simple tracker one iff it starts a track
    cases cfg.batchIds
    · exact (freshIds_length_cons p ps).symm
    · exact Nat.add_comm 1 ps.length

theorem applyPicks_fields {cfg : Cfg} {scene e : Nat} {dets : List Det} {picks : List Pick} {st st' : St}
    {recs : List Rec} (h : applyPicks cfg scene e dets picks st = some (st', recs)) :
    st' = { st with live := st'.live, nextId := st'.nextId } := by
  induction dets, picks, st, st', recs, h using applyPicks_induction with
  | nil st => rfl
  | cons d ds p ps st st1 st' r rs h1 _ ih => rw [ih, applyPick_fields h1]

/-- the assignment entries `validChoice` builds from the table; detection `i` is query `i + 1` because
`SortVoting::winners` drops pairs with id 0 (`Model/Assign.lean`) -/
def esOf (table : List Entry) : List AssignX.Entry := table.map (fun x => { q := x.det + 1, t := x.tid, w := x.w })

theorem entryOk_iff (cfg : Cfg) (st : St) (scene e : Nat) (x : Entry) :
    entryOk cfg st scene e x = true ↔
      ∃ t, findLive st x.tid = some t ∧ t.scene = scene ∧ e - t.lastUpd ≤ cfg.maxIdle := by
  unfold entryOk
  cases findLive st x.tid <;> simp

theorem validChoice_iff (cfg : Cfg) (st : St) (scene e n : Nat) (table : List Entry) (picks : List Pick) :
    validChoice cfg st scene e n table picks = true ↔
    picks.length = n ∧ (∀ x ∈ table, entryOk cfg st scene e x = true) ∧
    (∀ i tid, (picks.map contOf)[i]? = some (some tid) → ∃ x ∈ table, x.det = i ∧ x.tid = tid ∧ cfg.thr ≤ x.w) ∧
    ((picks.map contOf).filterMap id).Nodup ∧
    AssignX.objective (esOf table) cfg.thr (AssignX.queries (esOf table))
      ((AssignX.queries (esOf table)).map (fun q => (picks.map contOf).getD (q - 1) none)) =
      AssignX.bestOf (esOf table) cfg.thr := by
  unfold validChoice esOf
  simp only [Bool.and_eq_true, beq_iff_eq, List.all_eq_true, nodupB_iff, and_assoc]
  refine and_congr_right fun hlen => and_congr_right fun _ => and_congr_left' ?_
  subst hlen
  rw [← List.length_map (f := contOf)]
  have gate : ∀ i tid, table.any (fun x => x.det == i && x.tid == tid && decide (cfg.thr ≤ x.w)) = true ↔
      ∃ x ∈ table, x.det = i ∧ x.tid = tid ∧ cfg.thr ≤ x.w := fun i tid => by
    simp only [List.any_eq_true, Bool.and_eq_true, beq_iff_eq, decide_eq_true_eq, and_assoc]
  constructor
  · intro h i tid hi
    exact (gate i tid).mp (h (i, some tid) ((ListFacts.mem_zip_range_iff _ i _).mpr hi))
  · rintro h ⟨i, _ | tid⟩ hm
    · rfl
    · exact (gate i tid).mpr (h i tid ((ListFacts.mem_zip_range_iff _ i _).mp hm))

theorem mem_conts {picks : List Pick} {tid : Nat} {vis : Bool} (hp : Pick.cont tid vis ∈ picks) :
    tid ∈ (picks.map contOf).filterMap id := by
  simp only [List.mem_filterMap, List.mem_map, id_eq, exists_eq_right]
  exact ⟨_, hp, rfl⟩

section valid
variable {cfg : Cfg} {st : St} {scene e n : Nat} {table : List Entry} {picks : List Pick}
  (h : validChoice cfg st scene e n table picks = true)
include h

theorem valid_conts_nodup : ((picks.map contOf).filterMap id).Nodup :=
  ((validChoice_iff cfg st scene e n table picks).mp h).2.2.2.1

theorem valid_conts_of_mem {tid : Nat} (htid : tid ∈ (picks.map contOf).filterMap id) :
    ∃ t, findLive st tid = some t ∧ t.scene = scene ∧ e - t.lastUpd ≤ cfg.maxIdle := by
  obtain ⟨_, htab, hgate, _⟩ := (validChoice_iff cfg st scene e n table picks).mp h
  obtain ⟨o, ho, rfl⟩ := List.mem_filterMap.mp htid
  obtain ⟨i, hi⟩ := List.mem_iff_getElem?.mp ho
  obtain ⟨x, hx, _, rfl, _⟩ := hgate i tid hi
  exact (entryOk_iff cfg st scene e x).mp (htab x hx)

theorem valid_conts (tid : Nat) (vis : Bool) (hp : Pick.cont tid vis ∈ picks) :
    ∃ t, findLive st tid = some t ∧ t.scene = scene ∧ e - t.lastUpd ≤ cfg.maxIdle :=
  valid_conts_of_mem h (mem_conts hp)

end valid

theorem pickIds_perm (picks : List Pick) :
    (picks.map pickId).Perm ((picks.map contOf).filterMap id ++ freshIds picks) := by
  induction picks with
  | nil => exact .nil
  | cons p ps ih =>
    cases p with
    | cont tid vis => exact ih.cons tid
    | fresh id => exact (ih.cons id).trans List.perm_middle.symm

theorem nodup_pickIds (picks : List Pick)
    (h1 : ((picks.map contOf).filterMap id).Nodup) (h2 : (freshIds picks).Nodup)
    (h3 : ∀ x ∈ (picks.map contOf).filterMap id, x ∉ freshIds picks) : (picks.map pickId).Nodup :=
  (pickIds_perm picks).nodup_iff.mpr (List.nodup_append.mpr ⟨h1, h2, fun x hx _ hy hxy => h3 x hx (hxy ▸ hy)⟩)

/-- `st.nextId` is the last id issued; the simple trackers do not read `lo hi` (`predict` passes `0 0`) -/
theorem freshIdsOk_simple_iff (cfg : Cfg) (hb : cfg.batchIds = false) (st : St) (lo hi : Nat) (picks : List Pick) :
    freshIdsOk cfg st lo hi picks = true ↔ freshIds picks = List.range' (st.nextId + 1) (freshIds picks).length := by
  unfold freshIdsOk
  simp only [hb, Bool.false_eq_true, if_false, beq_iff_eq, List.range'_eq_map_range]
  rfl

theorem consecutive_ids {l : List Nat} {n : Nat} (h : l = List.range' (n + 1) l.length) :
    l.Nodup ∧ ∀ id ∈ l, n < id ∧ id ≤ n + l.length := by
  refine ⟨h ▸ List.nodup_range', fun id hid => ?_⟩
  rw [h, List.mem_range'_1] at hid
  omega

theorem freshIdsOk_batch_iff (cfg : Cfg) (hb : cfg.batchIds = true) (st : St) (lo hi : Nat) (picks : List Pick) :
    freshIdsOk cfg st lo hi picks = true ↔
    (∀ id ∈ freshIds picks, lo < id ∧ id ≤ hi ∧ id ∉ st.live.map (·.id)) ∧ (freshIds picks).Nodup := by
  unfold freshIdsOk
  simp only [hb, if_true, Bool.and_eq_true, List.all_eq_true, decide_eq_true_eq, Bool.not_eq_true',
    List.any_eq_false, beq_iff_eq, nodupB_iff, List.mem_map, not_exists, not_and, and_assoc]
  rfl

/-- the id check reads the state through the counter (simple trackers) or the live ids (batch trackers): it
passes in `b` if it passes in `a`, the counters agree resp. `b` holds none of the fresh ids that `a` does not -/
theorem freshIdsOk_of (cfg : Cfg) (a b : St) (lo hi : Nat) (picks : List Pick)
    (hs : cfg.batchIds = false → a.nextId = b.nextId)
    (hb : cfg.batchIds = true → ∀ i ∈ freshIds picks, i ∈ b.live.map (·.id) → i ∈ a.live.map (·.id))
    (h : freshIdsOk cfg a lo hi picks = true) : freshIdsOk cfg b lo hi picks = true := by
  cases hc : cfg.batchIds with
  | false =>
    rw [freshIdsOk_simple_iff cfg hc] at h ⊢
    rw [← hs hc]
    exact h
  | true =>
    rw [freshIdsOk_batch_iff cfg hc] at h ⊢
    exact ⟨fun id hid => ⟨(h.1 id hid).1, (h.1 id hid).2.1, fun hm => (h.1 id hid).2.2 (hb hc id hid hm)⟩, h.2⟩

/-- the scene step with the validity test left open: `predictScene` and `predictSceneV` are the two instances -/
def sceneStep (cfg : Cfg) (valid : St → Nat → Bool) (st : St) (scene : Nat) (dets : List Det) (picks : List Pick)
    (lo hi : Nat) : Option (St × List Rec) :=
  let e := epochOf st scene + 1
  let st2 := setEpoch st scene e
  if valid st2 e && freshIdsOk cfg st2 lo hi picks then applyPicks cfg scene e dets picks st2 else none

theorem sceneStep_parts {cfg : Cfg} {valid : St → Nat → Bool} {st st' : St} {scene : Nat} {dets : List Det}
    {picks : List Pick} {lo hi : Nat} {recs : List Rec}
    (h : sceneStep cfg valid st scene dets picks lo hi = some (st', recs)) :
    valid (setEpoch st scene (epochOf st scene + 1)) (epochOf st scene + 1) = true ∧
    freshIdsOk cfg (setEpoch st scene (epochOf st scene + 1)) lo hi picks = true ∧
    applyPicks cfg scene (epochOf st scene + 1) dets picks (setEpoch st scene (epochOf st scene + 1)) = some (st', recs) := by
  unfold sceneStep at h
  simp only at h
  split at h
  · rename_i hv
    simp only [Bool.and_eq_true] at hv
    exact ⟨hv.1, hv.2, h⟩
  · cases h

theorem sceneStep_of_parts {cfg : Cfg} {valid : St → Nat → Bool} {st st' : St} {scene : Nat} {dets : List Det}
    {picks : List Pick} {lo hi : Nat} {recs : List Rec} {e : Nat} (he : epochOf st scene + 1 = e)
    (hv : valid (setEpoch st scene e) e = true) (hf : freshIdsOk cfg (setEpoch st scene e) lo hi picks = true)
    (ha : applyPicks cfg scene e dets picks (setEpoch st scene e) = some (st', recs)) :
    sceneStep cfg valid st scene dets picks lo hi = some (st', recs) := by
  subst he
  unfold sceneStep
  simp only [hv, hf]
  exact ha

theorem sceneStep_fields {cfg : Cfg} {valid : St → Nat → Bool} {st st' : St} {scene : Nat} {dets : List Det}
    {picks : List Pick} {lo hi : Nat} {recs : List Rec}
    (h : sceneStep cfg valid st scene dets picks lo hi = some (st', recs)) :
    st' = { setEpoch st scene (epochOf st scene + 1) with live := st'.live, nextId := st'.nextId } :=
  applyPicks_fields (sceneStep_parts h).2.2

theorem predictScene_parts {cfg : Cfg} {st st' : St} {scene : Nat} {dets : List Det} {table : List Entry}
    {picks : List Pick} {lo hi : Nat} {recs : List Rec}
    (h : predictScene cfg st scene dets table picks lo hi = some (st', recs)) :
    validChoice cfg (setEpoch st scene (epochOf st scene + 1)) scene (epochOf st scene + 1) dets.length table picks = true ∧
    freshIdsOk cfg (setEpoch st scene (epochOf st scene + 1)) lo hi picks = true ∧
    applyPicks cfg scene (epochOf st scene + 1) dets picks (setEpoch st scene (epochOf st scene + 1)) = some (st', recs) :=
  sceneStep_parts (valid := fun s e => validChoice cfg s scene e dets.length table picks) h

theorem predictScene_fields {cfg : Cfg} {st st' : St} {scene : Nat} {dets : List Det} {table : List Entry}
    {picks : List Pick} {lo hi : Nat} {recs : List Rec}
    (h : predictScene cfg st scene dets table picks lo hi = some (st', recs)) :
    st' = { setEpoch st scene (epochOf st scene + 1) with live := st'.live, nextId := st'.nextId } :=
  sceneStep_fields (valid := fun s e => validChoice cfg s scene e dets.length table picks) h

end SimVerif.Tracker
